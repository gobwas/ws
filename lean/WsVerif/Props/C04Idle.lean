/-
  The reader the `wsutil.ReadData` loop holds between two messages (`Idle`), what NextFrame makes of it in front
  of a frame, and the algebra of "the loop gets past a stretch of the stream": `Passes` composes by `append`,
  so a history is the concatenation of its items and every ending is stated once, for an idle reader.
-/
import WsVerif.Props.C04
import WsVerif.Proofs.ReaderText
namespace Ws.C04
open Ws Ws.Spec Ws.RdProof Ws.RdText

/-- the Reader `readData` (wsutil/helper.go) builds — CheckUTF8 on, header check on, no extension, no size limit —
    with a fresh validator, as the loop holds it between two messages -/
structure Idle (state : Nat) (r : Rd) : Prop where
  st : r.state = state
  chk : r.checkUTF8 = true
  ext : r.ext = false
  skip : r.skipCheck = false
  maxF : r.maxFrame = 0
  u8 : r.utf8 = {}

theorem idle_init (state : Nat) : Idle state ({ state, checkUTF8 := true } : Rd) := ⟨rfl, rfl, rfl, rfl, rfl, rfl⟩

namespace Idle
variable {state : Nat} {r0 : Rd}

theorem not_fragmented (hi : Idle state r0) (hnf : stIs state stFragmented = false) : r0.fragmented = false := by
  simp [Rd.fragmented, hi.st, hnf]

theorem nextFrame_hdr (hi : Idle state r0) (hnf : stIs state stFragmented = false) {h : Header} (hhwf : h.WF)
    (hacc : checkHeader h state = none) {s : Src} {tail : Bytes}
    (hb : s.bytes = rfcEncode h ++ tail) (hwf : Bytes.WF s.bytes) (htame : Src.Tame s) (cx : Ctx) (cb : Option Callback) :
    ∃ s1, r0.nextFrame s cx cb = (some h, none, enter r0 h, s1, cx)
      ∧ s1.bytes = tail ∧ Bytes.WF s1.bytes ∧ Src.Tame s1 ∧ s1.fin = s.fin := by
  obtain ⟨s1, h1, h2, h3, h4, _, h6⟩ := nextFrame_at r0 s cx cb h tail hi.ext hb hwf htame hhwf ⟨by simp [hi.skip, hi.st, hacc], by simp [hi.maxF]⟩
    (by rw [hi.not_fragmented hnf, Bool.false_and])
  exact ⟨s1, h1, h2, h3, h4, h6⟩

theorem nextFrame (hi : Idle state r0) (hnf : stIs state stFragmented = false) {f : WFrame} (hok : f.OK)
    (hacc : checkHeader f.h state = none) {s : Src} {rest : Bytes}
    (hb : s.bytes = f.enc ++ rest) (hwf : Bytes.WF s.bytes) (htame : Src.Tame s) (cx : Ctx) (cb : Option Callback) :
    ∃ s1, r0.nextFrame s cx cb = (some f.h, none, enter r0 f.h, s1, cx)
      ∧ InFrame (strip (enter r0 f.h)) s1 f.wire rest ∧ (f.h.op ≠ opText → InFrame (enter r0 f.h) s1 f.wire rest) := by
  obtain ⟨s1, h1, hb1, hwf1, ht1, _⟩ := hi.nextFrame_hdr hnf hok.hwf hacc (tail := f.wire ++ rest) (by rw [hb]; simp [WFrame.enc]) hwf htame cx cb
  exact ⟨s1, h1, ⟨by simp [strip, enter], rfl, hb1, by simp [strip, enter, hok.len], hwf1, by simp [strip, enter]; exact hok.mwf, ht1⟩,
    fun hnt => ⟨by simp [enter], by simp [enter, hi.not_fragmented hnf, hnt], hb1, by simp [enter, hok.len], hwf1, by simp [enter]; exact hok.mwf, ht1⟩⟩

theorem nextFrame_cut (hi : Idle state r0) (hnf : stIs state stFragmented = false) {h : Header} (hhwf : h.WF) (hnt : h.op ≠ opText)
    (hacc : checkHeader h state = none) {s : Src} {part : Bytes} (hcut : part.length < h.len)
    (hb : s.bytes = rfcEncode h ++ part) (hwf : Bytes.WF s.bytes) (htame : Src.Tame s) (cx : Ctx) (cb : Option Callback) :
    ∃ s1, r0.nextFrame s cx cb = (some h, none, enter r0 h, s1, cx) ∧ CutFrame (enter r0 h) s1 ∧ s1.fin = s.fin := by
  obtain ⟨s1, h1, hb1, hwf1, _, hfin1⟩ := hi.nextFrame_hdr hnf hhwf hacc hb hwf htame cx cb
  exact ⟨s1, h1, ⟨by simp [enter], by simp [enter, hnt, hi.not_fragmented hnf], by simp [enter, hb1]; exact hcut, hwf1,
    by simp [enter]; exact hhwf.2.2.2.1⟩, hfin1⟩

theorem enter_final (hi : Idle state r0) (hst : state < 256) (hnf : stIs state stFragmented = false) {h : Header}
    (hfin : h.fin = true) : Idle state (enter r0 h) ∧ (enter r0 h).fragmented = false := by
  refine ⟨⟨?_, by simp [enter, hi.chk], by simp [enter, hi.ext], by simp [enter, hi.skip], by simp [enter, hi.maxF], by simp [enter, hi.u8]⟩, ?_⟩
  · simp only [enter, hfin, if_true, hi.st]; exact stClear_unset state hst hnf
  · simp [enter, Rd.fragmented, hfin, hi.st, stClear_not_set state]

theorem valid_enter (hi : Idle state r0) (h : Header) : (enter r0 h).checkUTF8 = false ∨ (enter r0 h).utf8.valid = true :=
  Or.inr (by simp [enter, hi.u8, Utf8Rd.valid]; rfl)

theorem tm_enter (hi : Idle state r0) (hnf : stIs state stFragmented = false) {h : Header} (htext : h.op = opText) :
    TM .acc (enter r0 h) :=
  ⟨by simp [enter, hi.chk], by simp [enter, hi.u8]; rfl, by decide, fun _ => by simp [enter, hi.chk, htext],
   fun _ => by simp [enter, hi.not_fragmented hnf, htext], Or.inl (by simp [enter])⟩

end Idle

/-- A loop `L` (fuel first) started with an idle reader in front of `b ++ rest`, in a context with `I`, is `n` rounds
    later where it would be had it been started with an idle reader in front of `rest`; `I` holds again and `Q`
    relates the two contexts. -/
def Passes {α : Type} (L : Nat → Rd → Src → Ctx → α) (state : Nat) (b : Bytes) (n : Nat) (I : Ctx → Prop) (Q : Ctx → Ctx → Prop) : Prop :=
  ∀ (fuel : Nat) (rest : Bytes) (r : Rd) (s : Src) (cx : Ctx),
    Idle state r → I cx → s.bytes = b ++ rest → Bytes.WF s.bytes → Src.Tame s →
    ∃ r' s' cx', L (fuel + n) r s cx = L fuel r' s' cx'
      ∧ Idle state r' ∧ I cx' ∧ s'.bytes = rest ∧ Bytes.WF s'.bytes ∧ Src.Tame s' ∧ Q cx cx'

section
variable {α : Type} {L : Nat → Rd → Src → Ctx → α} {state : Nat} {I : Ctx → Prop}

theorem Passes.nil {Q : Ctx → Ctx → Prop} (hQ : ∀ cx, Q cx cx) : Passes L state [] 0 I Q :=
  fun _ _ r s cx hi hI hb hwf ht => ⟨r, s, cx, rfl, hi, hI, by simpa using hb, hwf, ht, hQ cx⟩

theorem Passes.append {b1 b2 : Bytes} {n n1 n2 : Nat} {Q1 Q2 Q : Ctx → Ctx → Prop}
    (h1 : Passes L state b1 n1 I Q1) (h2 : Passes L state b2 n2 I Q2) (hn : n = n1 + n2) (hQ : ∀ a b c, Q1 a b → Q2 b c → Q a c) :
    Passes L state (b1 ++ b2) n I Q := by
  intro fuel rest r s cx hi hI hb hwf ht
  obtain ⟨r1, s1, cx1, e1, hi1, hI1, hb1, hwf1, ht1, q1⟩ := h1 (fuel + n2) (b2 ++ rest) r s cx hi hI (by rw [hb, List.append_assoc]) hwf ht
  obtain ⟨r2, s2, cx2, e2, hi2, hI2, hb2, hwf2, ht2, q2⟩ := h2 fuel rest r1 s1 cx1 hi1 hI1 hb1 hwf1 ht1
  have hf : fuel + n = fuel + n2 + n1 := by omega
  exact ⟨r2, s2, cx2, by rw [hf, e1, e2], hi2, hI2, hb2, hwf2, ht2, hQ _ _ _ q1 q2⟩

theorem Passes.mono {b : Bytes} {n : Nat} {Q Q' : Ctx → Ctx → Prop} (h : Passes L state b n I Q) (hQ : ∀ a b, Q a b → Q' a b) :
    Passes L state b n I Q' := by
  intro fuel rest r s cx hi hI hb hwf ht
  obtain ⟨r1, s1, cx1, e1, hi1, hI1, hb1, hwf1, ht1, q1⟩ := h fuel rest r s cx hi hI hb hwf ht
  exact ⟨r1, s1, cx1, e1, hi1, hI1, hb1, hwf1, ht1, hQ _ _ q1⟩

end

def Wrote (W : List Bytes → Prop) (cx cx' : Ctx) : Prop :=
  cx'.msgs = cx.msgs ∧ ∃ ws, cx'.env.dst.writes = cx.env.dst.writes ++ ws ∧ W ws

theorem Wrote.refl {W : List Bytes → Prop} (h : W []) (cx : Ctx) : Wrote W cx cx :=
  ⟨rfl, [], by simp, h⟩

theorem Wrote.mono {W W' : List Bytes → Prop} (hW : ∀ ws, W ws → W' ws) (a b : Ctx) (h : Wrote W a b) : Wrote W' a b :=
  ⟨h.1, h.2.imp fun ws hws => ⟨hws.1, hW ws hws.2⟩⟩

theorem Wrote.trans {W1 W2 W : List Bytes → Prop} (hW : ∀ u v, W1 u → W2 v → W (u ++ v)) (a b c : Ctx)
    (h1 : Wrote W1 a b) (h2 : Wrote W2 b c) : Wrote W a c := by
  obtain ⟨hm1, u, hu, hwu⟩ := h1
  obtain ⟨hm2, v, hv, hwv⟩ := h2
  exact ⟨hm2.trans hm1, u ++ v, by rw [hv, hu, List.append_assoc], hW u v hwu hwv⟩

/-- History, then any ending: `readData` behind a stretch its loop passes is the loop at the ending, from an idle
    reader. -/
theorem Passes.readData {state want : Nat} {errText : ProtoErr → Bytes} {b : Bytes} {n : Nat} {I : Ctx → Prop} {Q : Ctx → Ctx → Prop}
    (hP : Passes (readData.loop want errText (stIs state stClient) (controlFrameHandler (stIs state stClient) errText false none))
      state b n I Q)
    (s : Src) (env : Env) (fuel : Nat) (tail : Bytes) (hI : I { env })
    (hb : s.bytes = b ++ tail) (hwf : Bytes.WF s.bytes) (htame : Src.Tame s) :
    ∃ r2 s2 cx2, readData state want errText s env (fuel + n)
        = readData.loop want errText (stIs state stClient) (controlFrameHandler (stIs state stClient) errText false none) fuel r2 s2 cx2
      ∧ Idle state r2 ∧ I cx2 ∧ s2.bytes = tail ∧ Bytes.WF s2.bytes ∧ Src.Tame s2 ∧ Q { env } cx2 :=
  hP fuel tail _ s { env } (idle_init state) hI hb hwf htame

end Ws.C04
