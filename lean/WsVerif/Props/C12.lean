/-
  C12 — permessage-deflate payloads round-trip and interoperate with standard DEFLATE.

  The compressor/decompressor are parameters of the model (compress/flate is outside gobwas/ws);
  what the library adds is the tail handling, and that is what is proved, for every sequence of
  compressor writes and every pattern of reads: the writer withholds the last four bytes and, on a
  successful Flush/Close, they were 00 00 ff ff — so appending them to what reached the destination
  restores the compressor's stream, which by the compressor's contract inflates to the message; the
  reader delivers the source followed by 00 00 ff ff 01 00 00 ff ff, once and in order.
  That DEFLATE itself round-trips is decided by the independent decoder/encoder oracles.
-/
import WsVerif.Model.Flate
import WsVerif.Model.FlateFrame
namespace Ws.C12
open Ws

def Dst.Good (d : Dst) : Prop := d.failAt = none

theorem flush_good (c : CBuf) (p : Bytes) (hf : c.failed = false) (hg : Dst.Good c.dst) :
    (c.flush p).failed = false ∧ Dst.Good (c.flush p).dst ∧ (c.flush p).dst.bytes = c.dst.bytes ++ p
      ∧ (c.flush p).buf = c.buf := by
  unfold Dst.Good at hg ⊢
  simp [CBuf.flush, Dst.write, Dst.bytes, hf, hg]

/-- cbuf.Write: nothing is lost or reordered, and exactly the last min(4, total) bytes stay. -/
theorem cbuf_write_spec (c : CBuf) (p : Bytes) (hf : c.failed = false) (hg : Dst.Good c.dst) (hb : c.buf.length ≤ 4) :
    (c.write p).1 = true ∧ (c.write p).2.failed = false ∧ Dst.Good (c.write p).2.dst
      ∧ (c.write p).2.dst.bytes ++ (c.write p).2.buf = c.dst.bytes ++ c.buf ++ p
      ∧ (c.write p).2.buf.length = min 4 (c.buf.length + p.length) := by
  unfold CBuf.write
  simp only [hf, Bool.false_eq_true, if_false]
  -- p = head ++ tail, tail its last (up to) four bytes
  generalize hhead : (if p.length > 4 then p.take (p.length - 4) else []) = head
  generalize htail : (if p.length > 4 then p.drop (p.length - 4) else p) = tail
  have hp : head ++ tail = p ∧ tail.length = min 4 p.length ∧ (head = [] ∨ tail.length = 4) := by
    subst hhead htail; split <;> simp <;> omega
  -- c1: room is made for the tail by passing the oldest withheld bytes on
  generalize hc1 : (if c.buf.length + tail.length > 4 then
    { (c.flush (c.buf.take (c.buf.length + tail.length - 4))) with buf := c.buf.drop (c.buf.length + tail.length - 4) }
    else c) = c1
  have h1 : c1.failed = false ∧ Dst.Good c1.dst ∧ c1.dst.bytes ++ c1.buf = c.dst.bytes ++ c.buf
      ∧ c1.buf.length + tail.length = min 4 (c.buf.length + tail.length) := by
    subst hc1; split
    · obtain ⟨f1, f2, f3, _⟩ := flush_good c (c.buf.take (c.buf.length + tail.length - 4)) hf hg
      refine ⟨f1, f2, ?_, ?_⟩
      · simp only [f3, List.append_assoc, List.take_append_drop]
      · simp only [List.length_drop]; omega
    · exact ⟨hf, hg, rfl, by omega⟩
  -- c2: the head goes straight through
  generalize hc2 : (if head.length > 0 then c1.flush head else c1) = c2
  have h2 : c2.failed = false ∧ Dst.Good c2.dst ∧ c2.dst.bytes = c1.dst.bytes ++ head ∧ c2.buf = c1.buf := by
    subst hc2; split
    · exact flush_good c1 head h1.1 h1.2.1
    · have : head = [] := List.length_eq_zero_iff.mp (by omega)
      simp [this, h1]
  obtain ⟨a1, a2, a3, a4⟩ := h1
  obtain ⟨b1, b2, b3, b4⟩ := h2
  refine ⟨by simp [b1], b1, b2, ?_, ?_⟩
  · -- a head is only split off a `p` whose tail fills the buffer, so nothing withheld is overtaken
    have : head = [] ∨ c1.buf = [] := hp.2.2.imp_right fun h => List.length_eq_zero_iff.mp (by omega)
    rcases this with h | h <;> simp [b3, b4, ← hp.1, ← a3, h]
  · simp only [List.length_append, b4]; omega

theorem feed_spec (w : FlWr) (chunks : List Bytes) (hf : w.cbuf.failed = false) (hg : Dst.Good w.cbuf.dst)
    (hb : w.cbuf.buf.length ≤ 4) :
    (w.feed chunks).1 = true ∧ (w.feed chunks).2.failed = false ∧ Dst.Good (w.feed chunks).2.dst
      ∧ (w.feed chunks).2.dst.bytes ++ (w.feed chunks).2.buf = w.cbuf.dst.bytes ++ w.cbuf.buf ++ chunks.flatten
      ∧ (w.feed chunks).2.buf.length = min 4 (w.cbuf.buf.length + chunks.flatten.length) := by
  unfold FlWr.feed
  generalize w.cbuf = c at *
  induction chunks generalizing c with
  | nil => exact ⟨rfl, hf, hg, (List.append_nil _).symm, (Nat.min_eq_right hb).symm⟩
  | cons ch rest ih =>
    obtain ⟨a1, a2, a3, a4, a5⟩ := cbuf_write_spec c ch hf hg hb
    obtain ⟨b1, b2, b3, b4, b5⟩ := ih (c.write ch).2 a2 a3 (a5 ▸ Nat.min_le_left _ _)
    rw [List.foldl_cons, Bool.not_true, if_neg Bool.false_ne_true,
      show c.write ch = (true, (c.write ch).2) by rw [← a1]]
    refine ⟨b1, b2, b3, ?_, ?_⟩
    · simp only [b4, a4, List.flatten_cons, List.append_assoc]
    · rw [b5, a5, List.flatten_cons, List.length_append]; omega

theorem tailOk_iff (c : CBuf) (hb : c.buf.length ≤ 4) : c.tailOk = true ↔ c.buf = compressionTail := by
  unfold CBuf.tailOk compressionTail
  refine ⟨fun h => ?_, fun h => by rw [h]; decide⟩
  have h' : c.buf ++ List.replicate (4 - c.buf.length) 0 = [0, 0, 255, 255] := by simpa using h
  -- the tail ends in 255: none of it can be padding
  by_cases h4 : c.buf.length = 4
  · simpa [h4] using h'
  · obtain ⟨n, hn⟩ : ∃ n, 4 - c.buf.length = n + 1 := ⟨3 - c.buf.length, by omega⟩
    have := congrArg List.getLast? h'
    simp [hn, List.replicate_succ'] at this

theorem flush_spec (w : FlWr) (chunks : List Bytes) (he : w.err = none) (hf : w.cbuf.failed = false)
    (hg : Dst.Good w.cbuf.dst) (hb : w.cbuf.buf.length ≤ 4) :
    (w.flush chunks).2.cbuf = (w.feed chunks).2
      ∧ (w.flush chunks).1 = if (w.feed chunks).2.buf = compressionTail then none else some .badTail := by
  obtain ⟨b1, _, _, _, b5⟩ := feed_spec w chunks hf hg hb
  have ht := tailOk_iff (w.feed chunks).2 (by rw [b5]; omega)
  unfold FlWr.flush
  rw [he, show w.feed chunks = (true, (w.feed chunks).2) by rw [← b1]]
  by_cases hc : (w.feed chunks).2.buf = compressionTail <;> simp [hc, ht]

/-- After a successful Flush/Close, appending 00 00 ff ff to what reached the destination gives
    back exactly what the compressor produced since the writer was (re)set. -/
theorem flush_ok_output (w : FlWr) (chunks : List Bytes) (he : w.err = none) (hf : w.cbuf.failed = false)
    (hg : Dst.Good w.cbuf.dst) (hb : w.cbuf.buf.length ≤ 4) (hok : (w.flush chunks).1 = none) :
    (w.flush chunks).2.cbuf.dst.bytes ++ compressionTail = w.cbuf.dst.bytes ++ w.cbuf.buf ++ chunks.flatten := by
  obtain ⟨e1, e2⟩ := flush_spec w chunks he hf hg hb
  rw [e2] at hok
  split at hok
  · next hc => rw [e1, ← (feed_spec w chunks hf hg hb).2.2.2.1, hc]
  · cases hok

/-- A compressor that does not end its flush with 00 00 ff ff is reported. -/
theorem flush_bad_tail (w : FlWr) (chunks : List Bytes) (he : w.err = none) (hf : w.cbuf.failed = false)
    (hg : Dst.Good w.cbuf.dst) (hb : w.cbuf.buf.length ≤ 4)
    (hbad : ∀ pre, w.cbuf.dst.bytes ++ w.cbuf.buf ++ chunks.flatten ≠ pre ++ compressionTail) :
    (w.flush chunks).1 = some .badTail := by
  rw [(flush_spec w chunks he hf hg hb).2, if_neg]
  intro hc
  exact hbad _ (by rw [← (feed_spec w chunks hf hg hb).2.2.2.1, hc])

/-- Once the writer has failed it stays failed and writes nothing more. -/
theorem writer_err_sticky (w : FlWr) (e : FlErr) (h : w.err = some e) (chunks : List Bytes) :
    w.write chunks = (some e, w) ∧ w.flush chunks = (some e, w) := by
  simp [FlWr.write, FlWr.flush, h]

/-- One Read hands out a prefix of what the suffixed reader still has to deliver (the source, then the
    nine bytes of the tail), and `pos` stays within the tail. -/
theorem sufrd_read_conserve (r : SufRd) (k : Nat) (hp : r.pos ≤ 9) :
    r.all = (r.read k).1 ++ (r.read k).2.2.all ∧ (r.read k).2.2.pos ≤ 9 := by
  unfold SufRd.read SufRd.all
  cases hs : r.src with
  | none =>
    simp only
    by_cases h9 : r.pos ≥ 9
    · simp [h9, hp, hs]
    · simp only [h9, if_false, List.nil_append]
      have hlen : compressionReadTail.length = 9 := rfl
      refine ⟨?_, ?_⟩
      · have := take_drop_len (compressionReadTail.drop r.pos) k
        rw [List.drop_drop] at this
        exact this.symm
      · rw [List.length_take, List.length_drop, hlen]; omega
  | some s =>
    simp only
    have hc := Src.read_conserve s k
    cases he : (s.read k).2.1 with
    | none => simp [hc, hp, List.append_assoc]
    | some f =>
      have hrest : (s.read k).2.2.bytes = [] := by rw [Src.bytes, (Src.read_err he).1]; rfl
      cases f with
      | eof => simp only; exact ⟨by rw [hc, hrest]; simp, hp⟩
      | fail => simp only; exact ⟨by rw [hc]; simp [List.append_assoc], hp⟩

theorem sufrd_read_eof (r : SufRd) (k : Nat) (h : (r.read k).2.1 = some .eof) :
    (r.read k).1 = [] ∧ (r.read k).2.2.all = [] := by
  unfold SufRd.read at h ⊢
  cases hs : r.src with
  | none =>
    simp only [hs] at h ⊢
    split at h
    · next h9 => simp only [h9, if_true, SufRd.all, hs]; exact ⟨trivial, List.drop_of_length_le h9⟩
    · cases h
  | some s =>
    simp only [hs] at h ⊢
    split at h <;> cases h

/-- Draining to EOF yields exactly what was still to deliver — the source, then 00 00 ff ff 01 00 00 ff ff —
    whatever the read sizes. -/
theorem sufrd_drain_all (sizes : List Nat) (r : SufRd) (hp : r.pos ≤ 9) (out : Bytes)
    (h : r.drain sizes = (out, some .eof)) : out = r.all := by
  induction sizes generalizing r out with
  | nil => simp [SufRd.drain] at h
  | cons k ks ih =>
    unfold SufRd.drain at h
    obtain ⟨hc, hp'⟩ := sufrd_read_conserve r k hp
    split at h
    · next got e r' heq =>
      obtain ⟨rfl, rfl⟩ : got = out ∧ e = .eof := by simpa using h
      have := sufrd_read_eof r k (by rw [heq])
      rw [heq] at this hc
      rw [hc, this.2, List.append_nil]
    · next got r' heq =>
      rw [heq] at hc hp'
      cases hd : r'.drain ks with
      | mk rest e =>
        obtain ⟨rfl, rfl⟩ : got ++ rest = out ∧ e = some .eof := by simpa [hd] using h
        rw [hc, ih r' hp' rest hd]

example : (SufRd.drain { src := some { chunks := [[1, 2], [3]], fin := .eof } } [1, 5, 4, 2, 100, 1]).1
    = [1, 2, 3, 0, 0, 255, 255, 1, 0, 0, 255, 255] := by decide

/-- Neither helper touches a non-final frame, whatever its bits, opcode or payload. -/
theorem helpers_refuse_non_final (codec : Bytes → Option Bytes) (h : Header) (p : Bytes) (hf : h.fin = false) :
    compressFrame codec h p = .error .fragmented ∧ decompressFrame codec h p = .error .fragmented := by
  unfold compressFrame decompressFrame; simp [hf]

/-- 4 is the compression bit (RSV1) among the three reserved bits. -/
theorem rsv_bits : ∀ r, r < 8 → r &&& 4 = 0 →
    r &&& 3 = r ∧ (r ||| 4) &&& 3 = r ∧ ((r ||| 4) &&& 4 != 0) = true := by decide

/-- A final text/binary frame whose compression bit is clear, through CompressFrame and back through
    DecompressFrame: the compressed frame differs from the original in the compression bit, the
    length and the payload only; decompressing gives the original header and payload back. The codec's
    own round trip (`decomp (comp p) = p`) is the hypothesis — DEFLATE is not the library's. -/
theorem frame_roundtrip (comp decomp : Bytes → Option Bytes) (h : Header) (p c : Bytes)
    (hf : h.fin = true) (hop : opIsData h.op = true) (hnc : h.op ≠ opContinuation)
    (hr : h.rsv < 8) (hb : h.rsv &&& 4 = 0) (hl : h.len = p.length)
    (hc : comp p = some c) (hd : decomp c = some p) :
    compressFrame comp h p = .ok ({ h with rsv := h.rsv ||| 4, len := c.length }, c)
    ∧ decompressFrame decomp { h with rsv := h.rsv ||| 4, len := c.length } c = .ok (h, p) := by
  obtain ⟨-, h1, h2⟩ := rsv_bits h.rsv hr hb
  have hne : (h.op != opContinuation) = true := by simpa using hnc
  obtain ⟨fin, rsv, op, masked, mask, len⟩ := h
  subst hf hl
  constructor
  · simp [compressFrame, setBits, hc, hb, hop, hnc]
  · simp only [decompressFrame, unsetBits, hop, hne, h1, h2, hd, Bool.not_true, Bool.false_eq_true, if_false,
      Bool.and_self, if_true]

/-- A final frame whose compression bit is clear passes DecompressFrame untouched, whatever its opcode. -/
theorem decompress_plain_untouched (decomp : Bytes → Option Bytes) (h : Header) (p : Bytes)
    (hf : h.fin = true) (hr : h.rsv < 8) (hb : h.rsv &&& 4 = 0) :
    decompressFrame decomp h p = .ok (h, p) := by
  have h3 := (rsv_bits h.rsv hr hb).1
  obtain ⟨fin, rsv, op, masked, mask, len⟩ := h
  subst hf
  by_cases hd : (opIsData op && op != opContinuation) = true <;>
    simp only [decompressFrame, unsetBits, hd, hb, h3, Bool.not_true, Bool.false_eq_true, if_false, if_true,
      bne_self_eq_false]

example : compressFrame (fun _ => some [1, 2]) { fin := true, rsv := 2, op := 1, masked := false, mask := Mask.zero, len := 3 } [7, 7, 7]
    = .ok ({ fin := true, rsv := 6, op := 1, masked := false, mask := Mask.zero, len := 2 }, [1, 2]) := by rfl

end Ws.C12
