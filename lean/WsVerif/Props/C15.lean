/-
  C15 — No input from the peer can make the library panic, hang or overrun a size limit.

  Every model function is a total Lean function: the modelled logic terminates on every input (this is what the
  kernel accepts when it accepts the definitions; the loops carry explicit fuel). Go panics are explicit outcomes of
  the models (`.fault`, `none`, "PANIC"); here they are proved unreachable where they are, and exhibited where they
  are not (`F5_readFrame_makeslice`, a defect of the unchanged tree recorded as a known finding).
-/
import WsVerif.Props.C05
import WsVerif.Props.C02
import WsVerif.Model.HttpHead
namespace Ws.C15
open Ws

/-- ReadHeader's second read is for at most 12 bytes (8 length + 4 mask). -/
theorem hdrExtra_le (h2 : Hdr2) (n : Nat) (h : hdrExtra h2 = .ok n) : n ≤ 12 := by
  rw [hdrExtra_eq] at h
  split at h
  · injection h with h; subst h; unfold extLen; split <;> split <;> (try split) <;> omega
  · cases h

/-- ws.ReadHeader never reaches one of its index/slice panics, for any input and any chunking. -/
theorem readHeader_no_fault (s : Src) : (readHeaderWs s).1 ≠ .error .fault := by
  rcases hr : s.readFull 2 with ⟨_ | p, s1⟩
  · simp [readHeaderWs, hr]
  · match p, Src.readFull_ok_len hr with
    | [b0, b1], _ =>
      cases he : hdrExtra (hdrFirst b0 b1) with
      | error e =>
        rw [hdrExtra_eq] at he
        split at he
        · cases he
        · injection he with he; subst he; simp [readHeaderWs, hdrExtra_eq, *]
      | ok extra =>
        obtain ⟨hfull, hshort⟩ := readHeaderWs_second s s1 b0 b1 extra hr he
        by_cases hle : extra ≤ s1.bytes.length
        · obtain ⟨s2, h2, _⟩ := hfull hle
          rw [h2]
          exact hdrFinish_no_fault he (by rw [List.length_take]; omega)
        · obtain ⟨e, s2, h2⟩ := hshort (by omega)
          rw [h2]; simp

/-- ReadFrame does not panic when the announced length is one make() accepts. (Without that hypothesis it does:
    `F5_readFrame_makeslice`.) -/
theorem readFrame_no_fault_partial (s : Src) (h : ∀ hdr s1, readHeaderWs s = (.ok hdr, s1) → hdr.len ≤ maxSliceLen) :
    (readFrame s).1 ≠ .error .fault := by
  unfold readFrame
  have hf := readHeader_no_fault s
  split
  · rename_i e s1 heq
    rw [heq] at hf
    simpa using hf
  · rename_i hdr s1 heq
    have := h hdr s1 heq
    rw [if_neg (by omega)]
    split
    · split <;> simp
    · simp

/-- F5 (genuine defect, known finding): a 10-byte header announcing 2^63-1 bytes makes ReadFrame
    panic in make() — no payload byte is needed. -/
theorem F5_readFrame_makeslice :
    (readFrame { chunks := [[0x82, 0x7f, 0x7f, 0xff, 0xff, 0xff, 0xff, 0xff, 0xff, 0xff]], fin := .eof }).1 = .error .fault := by
  rfl

/-- The payload cipher never panics on bytes. -/
theorem cipher_total (p : Bytes) (hp : Bytes.WF p) (m : Mask) (hm : m.WF) (off : Nat) : (cipher p m off).isSome = true := by
  rw [C02.cipher_eq_spec p hp m hm off]; rfl

/-- MaxFrameSize (restated from C05): the oversized frame is refused with the source exactly where
    its header ended — no payload byte has been pulled. -/
theorem toolarge_before_payload (r : Rd) (s s1 : Src) (cx : Ctx) (cb : Option Callback) (hdr : Header)
    (hh : readHeaderUtil s = (.ok hdr, s1))
    (hc : (if r.skipCheck then none else checkHeader hdr r.state) = none)
    (hmax : r.maxFrame > 0) (hbig : hdr.len > r.maxFrame) :
    r.nextFrame s cx cb = (some hdr, some .tooLarge, r, s1, cx) :=
  C05.toolarge_before_payload r s s1 cx cb hdr hh hc hmax hbig

theorem skipSpace_le (p : Bytes) : (Lex.skipSpace p).length ≤ p.length := by
  fun_induction Lex.skipSpace p <;> simp_all <;> omega

/-- Every item the header-value lexer returns consumes at least one byte: scans cannot loop
    without consuming input. -/
theorem next_progress (l l' : Lex.Scanner) (it : Lex.Item) (h : l.next = (some it, l')) :
    l'.rest.length < l.rest.length := by
  unfold Lex.Scanner.next at h
  split at h
  · cases h                                     -- the error flag is set: no item
  · have hs := skipSpace_le l.rest
    split at h
    · cases h                                   -- only white space is left: no item
    · rename_i c tl hsk                         -- `c` is the first byte after the white space
      rw [hsk] at hs
      simp only [List.length_cons] at hs
      split at h
      · split at h                              -- `c` opens a quoted string
        · cases h                               --   never closed: no item
        · injection h with _ h2; subst h2       --   the string item: `c`, the string and its closing quote go
          simp only [List.length_drop]; omega
      · split at h
        · injection h with _ h2; subst h2; simp only; omega   -- `(`: the comment item, `c` goes
        · split at h
          · cases h                             -- a stray `\` or `)`: no item
          · split at h
            · injection h with _ h2; subst h2; simp only; omega   -- the separator item, `c` goes
            · split at h
              · rename_i htok                   -- the token item: the longest run of token bytes goes, `c` among them
                injection h with _ h2; subst h2
                simp only [List.length_drop, List.length_cons]
                have : ((c :: tl).takeWhile Lex.isToken).length ≥ 1 := by
                  simp [List.takeWhile, htok]
                omega
              · cases h                         -- any other byte: no item

end Ws.C15
