/-
  C04 / C08 / C07 — the `wsutil.ReadData` family on a fragmented message of a wanted type, with pings and pongs
  between its fragments. The reader of ReadData has CheckUTF8 on: `loop_fragmented` and `loop_fragmented_text` are
  `readAll_message_pongs` (Props/C08Intermediate, the non-checking reader) carried over by Proofs/ReaderSim, which
  for text needs that the control handler never reports io.EOF (Proofs/HandlerEof).
-/
import WsVerif.Props.C08Intermediate
import WsVerif.Proofs.ReaderPong
import WsVerif.Props.C08ReadData
import WsVerif.Props.C04ReadMessageFrag
namespace Ws.C08
open Ws Ws.Spec Ws.RdProof Ws.RdCb Ws.RdText Ws.RdBin Ws.RdPong Ws.C06 Ws.C04 Ws.C07

theorem wanted_strip (state : Nat) (errText : ProtoErr → Bytes)
    (r0 : Rd) (s : Src) (cx : Ctx) (f0 : WFrame) (fs : List WFrame) (rest : Bytes)
    (hi : Idle state r0) (henv : EnvOk cx.env) (hst : state < 256) (hnf : stIs state stFragmented = false)
    (hm : Message (strip r0) f0 fs)
    (hg : ∀ f ∈ fs, opIsControl f.h.op = true → GoodCtl f)
    (hb : s.bytes = encodeFs (f0 :: fs) ++ rest) (hwf : Bytes.WF s.bytes) (htame : Src.Tame s) :
    ∃ q1 s1 q s' cx' ws,
      (strip r0).nextFrame s cx (some (pongH (stIs state stClient) errText)) = (some f0.h, none, q1, s1, cx)
      ∧ readAllRd q1 s1 cx (some (pongH (stIs state stClient) errText)) = (dataPlain (f0 :: fs), none, q, s', cx')
      ∧ s'.bytes = rest
      ∧ cx'.env.dst.writes = cx.env.dst.writes ++ ws ∧ Pongs (stIs state stClient) ws (pingsIn fs) ∧ cx'.msgs = cx.msgs :=
  readAll_message_pongs (stIs state stClient) errText (strip r0) s cx f0 fs rest (hi.not_fragmented hnf) (by simp [strip, hi.st]; exact hst)
    (by simp [strip, hi.ext]) rfl hm henv hg hb hwf htame

theorem loop_fragmented (state want : Nat) (errText : ProtoErr → Bytes)
    (r0 : Rd) (s : Src) (cx : Ctx) (fuel : Nat) (f0 : WFrame) (fs : List WFrame) (rest : Bytes)
    (hi : Idle state r0) (henv : EnvOk cx.env) (hst : state < 256) (hnf : stIs state stFragmented = false)
    (hm : Message (strip r0) f0 fs) (hnt : f0.h.op ≠ opText)
    (hwant : (f0.h.op &&& want == 0) = false)
    (hg : ∀ f ∈ fs, opIsControl f.h.op = true → GoodCtl f)
    (hb : s.bytes = encodeFs (f0 :: fs) ++ rest) (hwf : Bytes.WF s.bytes) (htame : Src.Tame s) :
    ∃ s' cx' ws, readData.loop want errText (stIs state stClient) (pongH (stIs state stClient) errText) (fuel + 1) r0 s cx
        = (dataPlain (f0 :: fs), f0.h.op, none, s', cx')
      ∧ s'.bytes = rest
      ∧ cx'.env.dst.writes = cx.env.dst.writes ++ ws ∧ Pongs (stIs state stClient) ws (pingsIn fs) ∧ cx'.msgs = cx.msgs := by
  obtain ⟨q1, s1, q, s', cx', ws, hN, hS, hb', hw⟩ := wanted_strip state errText r0 s cx f0 fs rest hi henv hst hnf hm hg hb hwf htame
  obtain ⟨r1, hnext, rfl, hbin⟩ := enter_bin (ok_some (ctlHandler_ok _ errText)) r0 hN (hi.not_fragmented hnf)
    hi.u8 hi.skip hi.ext hnt
  exact ⟨s', cx', ws, (loop_wanted want fuel hnext hm.data0 hwant hS hm.dataPlain_wf).1 hbin, hb', hw⟩

theorem loop_fragmented_text (state want : Nat) (errText : ProtoErr → Bytes)
    (r0 : Rd) (s : Src) (cx : Ctx) (fuel : Nat) (f0 : WFrame) (fs : List WFrame) (rest : Bytes)
    (hi : Idle state r0) (henv : EnvOk cx.env) (hst : state < 256) (hnf : stIs state stFragmented = false)
    (hm : Message (strip r0) f0 fs) (htext : f0.h.op = opText)
    (hwant : (opText &&& want == 0) = false)
    (hg : ∀ f ∈ fs, opIsControl f.h.op = true → GoodCtl f)
    (hb : s.bytes = encodeFs (f0 :: fs) ++ rest) (hwf : Bytes.WF s.bytes) (htame : Src.Tame s) :
    (wfUtf8 (dataPlain (f0 :: fs)) = true →
      ∃ s' cx' ws, readData.loop want errText (stIs state stClient) (pongH (stIs state stClient) errText) (fuel + 1) r0 s cx
          = (dataPlain (f0 :: fs), opText, none, s', cx')
        ∧ s'.bytes = rest
        ∧ cx'.env.dst.writes = cx.env.dst.writes ++ ws ∧ Pongs (stIs state stClient) ws (pingsIn fs) ∧ cx'.msgs = cx.msgs)
    ∧ (wfUtf8 (dataPlain (f0 :: fs)) = false →
      (readData.loop want errText (stIs state stClient) (pongH (stIs state stClient) errText) (fuel + 1) r0 s cx).2.2.1 = some .utf8) := by
  obtain ⟨q1, s1, q, s', cx', ws, hN, hS, hb', hw⟩ := wanted_strip state errText r0 s cx f0 fs rest hi henv hst hnf hm hg hb hwf htame
  obtain ⟨r1, hnext, rfl, htm⟩ := enter_text (ok_some (ctlHandler_ok _ errText)) r0 hN (hi.not_fragmented hnf)
    hi.chk (by rw [hi.u8]; rfl) htext
  have h3 := (loop_wanted want fuel hnext hm.data0 (by rw [htext]; exact hwant) hS hm.dataPlain_wf).2 htm
  rw [htext] at h3
  exact ⟨fun hgood => ⟨s', cx', ws, h3.1 hgood, hb', hw⟩, h3.2⟩

theorem message_of_idle (state : Nat) (r : Rd) (hi : Idle state r) (f0 : WFrame) (fs : List WFrame)
    (hm : Message ({ state } : Rd) f0 fs) : Message (strip r) f0 fs := by
  have h1 : (strip r).skipCheck = false := by simp [strip, hi.skip]
  have h2 : (strip r).state = state := by simp [strip, hi.st]
  have h3 : (strip r).maxFrame = 0 := by simp [strip, hi.maxF]
  refine ⟨hm.ok0, hm.data0, ?_, ?_⟩
  · rw [h1, h2, h3]; exact hm.acc0
  · rw [h1, h2, h3]; exact hm.rest

/-- C04 / C08: ReadData on a fragmented non-text message of a wanted type with pings (0..125 bytes) and pongs anywhere
    between its fragments, behind any history of pings, pongs and unwanted messages: the payloads of the fragments
    concatenated, the first frame's opcode, no error, the transport right behind the message; what was written is
    exactly one pong per ping met (before the message, then between its fragments), in order, each with the identical
    payload, nothing else. For every fragmentation, placement of the control frames and transport chunking. -/
theorem readData_fragmented_after_history (state want : Nat) (errText : ProtoErr → Bytes) (s : Src) (env : Env) (fuel : Nat)
    (items : List Item) (f0 : WFrame) (fs : List WFrame) (rest : Bytes)
    (hst : state < 256) (hnf : stIs state stFragmented = false) (he : EnvOk env)
    (hall : ∀ it ∈ items, it.Good state want)
    (hm : Message ({ state } : Rd) f0 fs) (hfin : f0.h.fin = false) (hnt : f0.h.op ≠ opText)
    (hwant : (f0.h.op &&& want == 0) = false)
    (hg : ∀ f ∈ fs, opIsControl f.h.op = true → GoodCtl f)
    (hb : s.bytes = encodeFs (items.map Item.frame) ++ (encodeFs (f0 :: fs) ++ rest)) (hwf : Bytes.WF s.bytes) (htame : Src.Tame s) :
    ∃ s' cx' ws1 ws2, readData state want errText s env (fuel + 1 + items.length) = (dataPlain (f0 :: fs), f0.h.op, none, s', cx')
      ∧ s'.bytes = rest
      ∧ cx'.env.dst.writes = env.dst.writes ++ ws1 ++ ws2
      ∧ PongsFor (stIs state stClient) ws1 (pingsOf items) ∧ Pongs (stIs state stClient) ws2 (pingsIn fs) := by
  obtain ⟨r2, s2, cx2, h2, hi2, he2, hb2, hwf2, ht2, _, ws1, hw2, hp2⟩ := (passes_items hst hnf items hall).readData s env (fuel + 1)
    (encodeFs (f0 :: fs) ++ rest) he hb hwf htame
  obtain ⟨s', cx', ws2, h3, hb3, hw3, hp3, _⟩ := loop_fragmented state want errText r2 s2 cx2 fuel f0 fs rest hi2 he2 hst hnf
    (message_of_idle state r2 hi2 f0 fs hm) hnt hwant hg hb2 hwf2 ht2
  exact ⟨s', cx', ws1, ws2, h2.trans h3, hb3, by rw [hw3, hw2], hp2, hp3⟩

example : Message ({ state := 1 } : Rd) bF0 [exPing, exF1, exF2] ∧ bF0.h.fin = false ∧ bF0.h.op ≠ opText ∧ GoodCtl exPing := by
  refine ⟨?_, rfl, by decide, by unfold GoodCtl; decide⟩
  refine ⟨⟨by decide, by decide, by decide, by decide⟩, by decide, ⟨by decide, by decide⟩, ?_⟩
  exact exTail

end Ws.C08
