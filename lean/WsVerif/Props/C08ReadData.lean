/-
  C04 / C08 / C05 / C16 — the `wsutil.ReadData` family behind a history of pings, pongs and unwanted messages in any
  order (`Item`, `loop_history`), and then whatever ends it: the wanted message, a close frame, an offending frame, a
  stream that ends inside the wanted message. Each item is one `Passes` step (Props/C04Idle): the control handler
  reads a ping or pong through the message reader (`loop_ctl`) and answers a ping as `RdPong.ping_reply` says, an
  unwanted message is Discarded, and each time the reader is idle again.
-/
import WsVerif.Props.C04ReadData
import WsVerif.Props.C08
import WsVerif.Props.C05
namespace Ws.C04
open Ws Ws.Spec Ws.RdProof Ws.RdText Ws.RdBin Ws.RdPong Ws.C06 Ws.C08

/-- the pong that answers ping `f` when the next mask to be drawn is `m`: `RdPong.pongWire` (Proofs/ReaderPong, where the
    handler's reply is proved) under the name the `readData` theorems are stated with -/
def pongFor (client : Bool) (f : WFrame) (m : Mask) : Bytes :=
  if f.h.len = 0 then frameHeaderOnly client opPong   -- a bare header (the client's carries the all-zero key)
  else rfcEncode (wireHeader client ⟨true, 0, opPong, false, Mask.zero, f.h.len⟩ m) ++ wirePayload client f.plain m

theorem pongFor_eq : pongFor = pongWire := rfl

/-- A ping, pong or close frame in front of the loop: the handler is handed exactly the frame's payload, cleanly ended,
    and the reader is idle again right behind the frame; what is written and whether the loop goes on is
    `handleControl`'s affair. -/
theorem loop_ctl (state want : Nat) (errText : ProtoErr → Bytes) (client : Bool) (inter : Callback)
    (r0 : Rd) (s : Src) (cx : Ctx) (fuel : Nat) (f : WFrame) (rest : Bytes)
    (hi : Idle state r0) (hst : state < 256) (hnf : stIs state stFragmented = false)
    (hok : f.OK) (hop : f.h.op = opPing ∨ f.h.op = opPong ∨ f.h.op = opClose)
    (hacc : checkHeader f.h state = none)
    (hb : s.bytes = f.enc ++ rest) (hwf : Bytes.WF s.bytes) (htame : Src.Tame s) :
    ∃ chunks r1 s1, chunks.flatten = f.plain ∧ Idle state r1 ∧ s1.bytes = rest ∧ Src.Tame s1 ∧
      readData.loop want errText client inter (fuel + 1) r0 s cx =
        match handleControl client f.h { chunks := chunks } false cx.env errText with
        | none => ([], 0, some .fault, s1, cx)
        | some (some e, env') => ([], 0, some (cerrToR e), s1, { cx with env := env', events := cx.events ++ [(f.h.op, f.plain)] })
        | some (none, env') =>
          readData.loop want errText client inter fuel r1 s1 { cx with env := env', events := cx.events ++ [(f.h.op, f.plain)] } := by
  have hctl : opIsControl f.h.op = true := by rcases hop with h | h | h <;> rw [h] <;> rfl
  obtain ⟨s0, hnext, hin0, hin⟩ := hi.nextFrame hnf hok hacc hb hwf htame cx (some inter)
  obtain ⟨hidle0, hnf1⟩ := hi.enter_final hst hnf (ctl_accepted f.h state hctl hacc).1
  -- the handler reads the payload through the message reader to its end, if the frame announces one
  obtain ⟨chunks, r1, s1, hP, hfl, hi1, hb1, ht1⟩ : ∃ chunks r1 s1,
      ctlPull true (some inter) f.h (enter r0 f.h) s0 cx = (chunks, .eof, r1, s1, cx)
      ∧ chunks.flatten = f.plain ∧ Idle state r1 ∧ s1.bytes = rest ∧ Src.Tame s1 := by
    unfold ctlPull
    by_cases hz : f.h.len = 0
    · have hw0 : f.wire = [] := List.length_eq_zero_iff.mp (hok.len.trans hz)
      rw [if_neg fun h => h.1 hz]
      exact ⟨[], _, _, rfl, by simp [WFrame.plain, hw0, xorSpec], hidle0, by rw [hin0.bytes, hw0]; rfl, hin0.tame⟩
    · have hnt : f.h.op ≠ opText := by rcases hop with h | h | h <;> rw [h] <;> decide
      obtain ⟨chunks, r', s', hp, hfl, hb', ht', hcfg⟩ := pull_final_k (some inter) 32768 (by decide) (pullFuel s0)
        (enter r0 f.h) s0 cx [] f.wire rest (hin hnt) hnf1 (hi.valid_enter f.h) (pullFuel_gt s0)
      rw [if_pos ⟨hz, hop⟩]
      exact ⟨chunks, r', s', by simpa using hp, hfl.trans (f.plain_enter r0), hcfg.idle hidle0, hb', ht'⟩
  refine ⟨chunks, r1, s1, hfl, hi1, hb1, ht1, ?_⟩
  rw [readData.loop]
  simp only [hnext, hctl, if_true, controlFrameHandler_clean hP, hfl]
  rcases handleControl client f.h { chunks := chunks } false cx.env errText with _ | ⟨_ | e, env'⟩ <;> rfl

/-- C08: a ping (0..125 bytes) in front of the loop is answered with exactly one pong carrying the identical payload, and
    the reader is idle again right behind the ping. -/
theorem loop_ping (state want : Nat) (errText : ProtoErr → Bytes) (inter : Callback)
    (r0 : Rd) (s : Src) (cx : Ctx) (fuel : Nat) (f : WFrame) (rest : Bytes)
    (hi : Idle state r0) (he : EnvOk cx.env)
    (hst : state < 256) (hnf : stIs state stFragmented = false)
    (hok : f.OK) (hping : f.h.op = opPing) (hfin : f.h.fin = true) (hlen125 : f.h.len ≤ 125)
    (hacc : checkHeader f.h state = none)
    (hb : s.bytes = f.enc ++ rest) (hwf : Bytes.WF s.bytes) (htame : Src.Tame s) :
    ∃ r1 s1 cx1, readData.loop want errText (stIs state stClient) inter (fuel + 1) r0 s cx
        = readData.loop want errText (stIs state stClient) inter fuel r1 s1 cx1
      ∧ Idle state r1 ∧ s1.bytes = rest ∧ Src.Tame s1 ∧ EnvOk cx1.env
      ∧ cx1.env.dst.writes = cx.env.dst.writes ++ [pongFor (stIs state stClient) f cx.env.popMask.1]
      ∧ cx1.msgs = cx.msgs := by
  obtain ⟨chunks, r1, s1, hfl, hi1, hb1, ht1, hL⟩ := loop_ctl state want errText (stIs state stClient) inter r0 s cx fuel f rest hi hst hnf hok
    (Or.inl hping) hacc hb hwf htame
  obtain ⟨e', hh, he', hw'⟩ := ping_reply (stIs state stClient) f { chunks := chunks } cx.env errText he hok hping hlen125 hfl rfl rfl
  rw [hh] at hL
  exact ⟨r1, s1, _, hL, hi1, hb1, ht1, he', pongFor_eq ▸ hw', rfl⟩

/-- an unsolicited pong in front of the loop: read to its end, nothing written, idle again -/
theorem loop_pong (state want : Nat) (errText : ProtoErr → Bytes) (inter : Callback)
    (r0 : Rd) (s : Src) (cx : Ctx) (fuel : Nat) (f : WFrame) (rest : Bytes)
    (hi : Idle state r0)
    (hst : state < 256) (hnf : stIs state stFragmented = false)
    (hok : f.OK) (hpong : f.h.op = opPong) (hfin : f.h.fin = true)
    (hacc : checkHeader f.h state = none)
    (hb : s.bytes = f.enc ++ rest) (hwf : Bytes.WF s.bytes) (htame : Src.Tame s) :
    ∃ r1 s1 cx1, readData.loop want errText (stIs state stClient) inter (fuel + 1) r0 s cx
        = readData.loop want errText (stIs state stClient) inter fuel r1 s1 cx1
      ∧ Idle state r1 ∧ s1.bytes = rest ∧ Src.Tame s1
      ∧ cx1.env = cx.env ∧ cx1.msgs = cx.msgs := by
  obtain ⟨chunks, r1, s1, _, hi1, hb1, ht1, hL⟩ := loop_ctl state want errText (stIs state stClient) inter r0 s cx fuel f rest hi hst hnf hok
    (Or.inr (Or.inl hpong)) hacc hb hwf htame
  rw [pong_reply _ _ _ _ _ hpong] at hL
  exact ⟨r1, s1, _, hL, hi1, hb1, ht1, rfl, rfl⟩

/-- what may precede the wanted message: data messages of other types, pings, and unsolicited pongs -/
inductive Item where
  | skip (f : WFrame)
  | ping (f : WFrame)
  | pong (f : WFrame)

def Item.frame : Item → WFrame
  | .skip f => f
  | .ping f => f
  | .pong f => f

structure GoodPing (state : Nat) (f : WFrame) : Prop where
  ok : f.OK
  op : f.h.op = opPing
  fin : f.h.fin = true
  len : f.h.len ≤ 125
  acc : checkHeader f.h state = none

structure GoodPong (state : Nat) (f : WFrame) : Prop where
  ok : f.OK
  op : f.h.op = opPong
  fin : f.h.fin = true
  acc : checkHeader f.h state = none

def Item.Good (state want : Nat) : Item → Prop
  | .skip f => Unwanted state want f
  | .ping f => GoodPing state f
  | .pong f => GoodPong state f

def pingsOf : List Item → List WFrame
  | [] => []
  | .skip _ :: is => pingsOf is
  | .ping f :: is => f :: pingsOf is
  | .pong _ :: is => pingsOf is

/-- `ws` are the pongs for `ps`, one each, in order, each under some drawn mask (`C08.Pongs` of Props/C08Intermediate is
    the same relation stated with `pongWire`, for the pings between the fragments of one message) -/
inductive PongsFor (client : Bool) : List Bytes → List WFrame → Prop
  | nil : PongsFor client [] []
  | cons (f : WFrame) (m : Mask) (ws : List Bytes) (ps : List WFrame) :
      PongsFor client ws ps → PongsFor client (pongFor client f m :: ws) (f :: ps)

theorem PongsFor.append (client : Bool) : ∀ {u v : List Bytes} {ps qs : List WFrame},
    PongsFor client u ps → PongsFor client v qs → PongsFor client (u ++ v) (ps ++ qs)
  | _, _, _, _, .nil, h => h
  | _, _, _, _, .cons f m _ _ hu, h => .cons f m _ _ (hu.append client h)

theorem pingsOf_cons (it : Item) (items : List Item) : pingsOf (it :: items) = pingsOf [it] ++ pingsOf items := by
  cases it <;> rfl

variable {state want : Nat} {errText : ProtoErr → Bytes} {inter : Callback}

theorem passes_item (hst : state < 256) (hnf : stIs state stFragmented = false) (it : Item) (hit : it.Good state want) :
    Passes (readData.loop want errText (stIs state stClient) inter) state it.frame.enc 1 (fun cx => EnvOk cx.env)
      (Wrote fun ws => PongsFor (stIs state stClient) ws (pingsOf [it])) := by
  cases it with
  | skip u => exact (passes_skip hst hnf hit).mono fun cx _ h => h ▸ Wrote.refl PongsFor.nil cx
  | pong q =>
    intro fuel rest r s cx hi he hb hwf ht
    have hq : GoodPong state q := hit
    obtain ⟨r1, s1, cx1, h1, hi1, hb1, ht1, he1, hm1⟩ := loop_pong state want errText inter r s cx fuel q rest hi hst hnf hq.ok hq.op hq.fin hq.acc hb hwf ht
    exact ⟨r1, s1, cx1, h1, hi1, show EnvOk cx1.env from he1 ▸ he, hb1, hb1 ▸ wf_append_right (hb ▸ hwf), ht1, hm1, [], by simp [he1], PongsFor.nil⟩
  | ping p =>
    intro fuel rest r s cx hi he hb hwf ht
    have hp : GoodPing state p := hit
    obtain ⟨r1, s1, cx1, h1, hi1, hb1, ht1, he1, hw1, hm1⟩ := loop_ping state want errText inter r s cx fuel p rest hi he hst hnf hp.ok hp.op hp.fin hp.len hp.acc hb hwf ht
    exact ⟨r1, s1, cx1, h1, hi1, he1, hb1, hb1 ▸ wf_append_right (hb ▸ hwf), ht1, hm1, _, hw1, PongsFor.cons _ _ _ _ PongsFor.nil⟩

theorem passes_items (hst : state < 256) (hnf : stIs state stFragmented = false) :
    ∀ items : List Item, (∀ it ∈ items, it.Good state want) →
      Passes (readData.loop want errText (stIs state stClient) inter) state (encodeFs (items.map Item.frame)) items.length
        (fun cx => EnvOk cx.env) (Wrote fun ws => PongsFor (stIs state stClient) ws (pingsOf items))
  | [], _ => Passes.nil (Wrote.refl PongsFor.nil)
  | it :: items, hall =>
    (passes_item hst hnf it (hall it (List.mem_cons_self ..))).append
      (passes_items hst hnf items fun g hg => hall g (List.mem_cons_of_mem _ hg)) (Nat.add_comm _ _)
      (Wrote.trans fun _ _ hu hv => pingsOf_cons it items ▸ hu.append _ hv)

/-- Every history of pings, pongs and unwanted messages: the loop is idle again behind them, exactly one pong per ping
    was written, in order, nothing else was written and nothing was delivered. -/
theorem loop_history (state want : Nat) (errText : ProtoErr → Bytes) (inter : Callback)
    (fuel : Nat) (rest : Bytes) (hst : state < 256) (hnf : stIs state stFragmented = false)
    (items : List Item) (hall : ∀ it ∈ items, it.Good state want) :
    ∀ (r0 : Rd) (s : Src) (cx : Ctx), Idle state r0 → EnvOk cx.env →
      s.bytes = encodeFs (items.map Item.frame) ++ rest → Bytes.WF s.bytes → Src.Tame s →
    ∃ r2 s2 cx2 ws, readData.loop want errText (stIs state stClient) inter (fuel + items.length) r0 s cx
        = readData.loop want errText (stIs state stClient) inter fuel r2 s2 cx2
      ∧ Idle state r2 ∧ s2.bytes = rest ∧ Bytes.WF s2.bytes ∧ Src.Tame s2 ∧ EnvOk cx2.env
      ∧ cx2.env.dst.writes = cx.env.dst.writes ++ ws ∧ PongsFor (stIs state stClient) ws (pingsOf items)
      ∧ cx2.msgs = cx.msgs := by
  intro r0 s cx hi he hb hwf ht
  obtain ⟨r2, s2, cx2, h2, hi2, he2, hb2, hwf2, ht2, hm2, ws, hw2, hp2⟩ := passes_items hst hnf items hall fuel rest r0 s cx hi he hb hwf ht
  exact ⟨r2, s2, cx2, ws, h2, hi2, hb2, hwf2, ht2, he2, hw2, hp2, hm2⟩

/-- C04 / C08: ReadData behind any history of pings, pongs and unwanted messages (non-text wanted): the first wanted
    message is returned whole with its opcode; what was written meanwhile is exactly one pong per ping, in order. -/
theorem readData_after_history (state want : Nat) (errText : ProtoErr → Bytes) (s : Src) (env : Env) (fuel : Nat)
    (items : List Item) (f : WFrame) (rest : Bytes)
    (hst : state < 256) (hnf : stIs state stFragmented = false) (he : EnvOk env)
    (hall : ∀ it ∈ items, it.Good state want)
    (hok : f.OK) (hfin : f.h.fin = true) (hdata : opIsControl f.h.op = false) (hnt : f.h.op ≠ opText)
    (hwant : (f.h.op &&& want == 0) = false)
    (hacc : checkHeader f.h state = none)
    (hb : s.bytes = encodeFs (items.map Item.frame) ++ (f.enc ++ rest)) (hwf : Bytes.WF s.bytes) (htame : Src.Tame s) :
    ∃ s' cx' ws, readData state want errText s env (fuel + 1 + items.length) = (f.plain, f.h.op, none, s', cx')
      ∧ s'.bytes = rest ∧ cx'.env.dst.writes = env.dst.writes ++ ws ∧ PongsFor (stIs state stClient) ws (pingsOf items) := by
  obtain ⟨r2, s2, cx2, h2, hi2, _, hb2, hwf2, ht2, _, ws, hw2, hp2⟩ := (passes_items hst hnf items hall).readData s env (fuel + 1) (f.enc ++ rest) he
    hb hwf htame
  obtain ⟨s', h3, hb3⟩ := loop_single state want errText r2 s2 cx2 fuel f rest hi2 hst hnf hok hfin hdata hnt hwant hacc hb2 hwf2 ht2
  exact ⟨s', cx2, ws, h2.trans h3, hb3, hw2, hp2⟩

/-- The same with text wanted: the first text message is returned iff it is well-formed UTF-8, with the pongs written;
    ErrInvalidUTF8 otherwise. -/
theorem readData_text_after_history (state want : Nat) (errText : ProtoErr → Bytes) (s : Src) (env : Env) (fuel : Nat)
    (items : List Item) (f : WFrame) (rest : Bytes)
    (hst : state < 256) (hnf : stIs state stFragmented = false) (he : EnvOk env)
    (hall : ∀ it ∈ items, it.Good state want)
    (hok : f.OK) (hfin : f.h.fin = true) (htext : f.h.op = opText)
    (hwant : (opText &&& want == 0) = false)
    (hacc : checkHeader f.h state = none)
    (hb : s.bytes = encodeFs (items.map Item.frame) ++ (f.enc ++ rest)) (hwf : Bytes.WF s.bytes) (htame : Src.Tame s) :
    (wfUtf8 f.plain = true →
        ∃ s' cx' ws, readData state want errText s env (fuel + 1 + items.length) = (f.plain, opText, none, s', cx')
          ∧ s'.bytes = rest ∧ cx'.env.dst.writes = env.dst.writes ++ ws ∧ PongsFor (stIs state stClient) ws (pingsOf items))
    ∧ (wfUtf8 f.plain = false → (readData state want errText s env (fuel + 1 + items.length)).2.2.1 = some .utf8) := by
  obtain ⟨r2, s2, cx2, h2, hi2, _, hb2, hwf2, ht2, _, ws, hw2, hp2⟩ := (passes_items hst hnf items hall).readData s env (fuel + 1) (f.enc ++ rest) he
    hb hwf htame
  rw [h2]
  have h3 := loop_single_text state want errText (stIs state stClient) r2 s2 cx2 fuel f rest hi2 hst hnf hok hfin htext hwant hacc hb2 hwf2 ht2
  refine ⟨fun hg => ?_, h3.2⟩
  obtain ⟨s', h4, hb4⟩ := h3.1 hg
  exact ⟨s', cx2, ws, h4, hb4, hw2, hp2⟩

example : GoodPing stServer ⟨{ fin := true, rsv := 0, op := opPing, masked := true, mask := ⟨1, 2, 3, 4⟩, len := 2 }, [9, 9]⟩ :=
  ⟨⟨by decide, rfl, by decide, by decide⟩, rfl, rfl, by decide, by decide⟩

end Ws.C04

namespace Ws.C08
open Ws Ws.Spec Ws.RdProof Ws.RdText Ws.C06 Ws.C04

theorem handleControl_close {client : Bool} {h : Header} {src : CtlSrc} {e : Env} {errText : ProtoErr → Bytes} (hop : h.op = opClose) :
    handleControl client h src false e errText = handleClose client h src false e errText := by
  unfold handleControl
  rw [if_neg (by rw [hop]; decide), if_neg (by rw [hop]; decide), if_pos hop]

theorem loop_close_empty (state want : Nat) (errText : ProtoErr → Bytes) {inter : Callback}
    (r0 : Rd) (s : Src) (cx : Ctx) (fuel : Nat) (h : Header) (rest : Bytes)
    (hi : Idle state r0) (he : EnvOk cx.env) (hst : state < 256) (hnf : stIs state stFragmented = false)
    (hhwf : h.WF) (hop : h.op = opClose) (hlen : h.len = 0)
    (hacc : checkHeader h state = none)
    (hb : s.bytes = rfcEncode h ++ rest) (hwf : Bytes.WF s.bytes) (htame : Src.Tame s) :
    ∃ s1 cx1, readData.loop want errText (stIs state stClient) inter (fuel + 1) r0 s cx
        = ([], 0, some (.closed 1005 []), s1, cx1)
      ∧ s1.bytes = rest
      ∧ cx1.env.dst.writes = cx.env.dst.writes ++ [frameHeaderOnly (stIs state stClient) opClose] := by
  have hok : (⟨h, []⟩ : WFrame).OK := ⟨hhwf, hlen.symm, fun _ hx => absurd hx (List.not_mem_nil), hhwf.2.2.2.1⟩
  obtain ⟨chunks, _, s1, _, _, hb1, _, hL⟩ := loop_ctl state want errText (stIs state stClient) inter r0 s cx fuel ⟨h, []⟩ rest hi hst hnf hok
    (Or.inr (Or.inr hop)) hacc (by simpa [WFrame.enc] using hb) hwf htame
  obtain ⟨e', hh, hw', _⟩ := close_empty_ok (stIs state stClient) h { chunks := chunks } cx.env he hlen errText
  rw [handleControl_close hop, hh] at hL
  exact ⟨s1, _, hL, hb1, hw'⟩

/-- C08: ReadData at an empty close frame, behind any history: one empty close frame in reply (after the pongs),
    ClosedError 1005, no data; what follows on the transport is not read. -/
theorem readData_close_empty (state want : Nat) (errText : ProtoErr → Bytes) (s : Src) (env : Env) (fuel : Nat)
    (items : List Item) (h : Header) (rest : Bytes)
    (hst : state < 256) (hnf : stIs state stFragmented = false) (he : EnvOk env)
    (hall : ∀ it ∈ items, it.Good state want)
    (hhwf : h.WF) (hop : h.op = opClose) (hlen : h.len = 0) (hacc : checkHeader h state = none)
    (hb : s.bytes = encodeFs (items.map Item.frame) ++ (rfcEncode h ++ rest)) (hwf : Bytes.WF s.bytes) (htame : Src.Tame s) :
    ∃ s' cx' ws, readData state want errText s env (fuel + 1 + items.length) = ([], 0, some (.closed 1005 []), s', cx')
      ∧ s'.bytes = rest
      ∧ cx'.env.dst.writes = env.dst.writes ++ ws ++ [frameHeaderOnly (stIs state stClient) opClose]
      ∧ PongsFor (stIs state stClient) ws (pingsOf items) := by
  obtain ⟨r2, s2, cx2, h2, hi2, he2, hb2, hwf2, ht2, _, ws, hw2, hp2⟩ := (passes_items hst hnf items hall).readData s env (fuel + 1)
    (rfcEncode h ++ rest) he hb hwf htame
  obtain ⟨s1, cx1, h3, hb3, hw3⟩ := loop_close_empty state want errText r2 s2 cx2 fuel h rest hi2 he2 hst hnf hhwf hop hlen hacc hb2 hwf2 ht2
  exact ⟨s1, cx1, ws, h2.trans h3, hb3, by rw [hw3, hw2], hp2⟩

theorem loop_close_valid (state want : Nat) (errText : ProtoErr → Bytes) {inter : Callback}
    (r0 : Rd) (s : Src) (cx : Ctx) (fuel : Nat) (f : WFrame) (rest : Bytes)
    (hi : Idle state r0) (he : EnvOk cx.env)
    (hst : state < 256) (hnf : stIs state stFragmented = false)
    (hok : f.OK) (hop : f.h.op = opClose) (hlen : 2 ≤ f.h.len ∧ f.h.len ≤ 125)
    (hacc : checkHeader f.h state = none)
    (hbody : checkCloseFrameData (parseCloseFrameData f.plain).1 (parseCloseFrameData f.plain).2 = none)
    (hb : s.bytes = f.enc ++ rest) (hwf : Bytes.WF s.bytes) (htame : Src.Tame s) :
    ∃ s1 cx1, readData.loop want errText (stIs state stClient) inter (fuel + 1) r0 s cx
        = ([], 0, some (.closed (parseCloseFrameData f.plain).1 (parseCloseFrameData f.plain).2), s1, cx1)
      ∧ s1.bytes = rest
      ∧ cx1.env.dst.writes = cx.env.dst.writes ++
          [rfcEncode (wireHeader (stIs state stClient) ⟨true, 0, opClose, false, Mask.zero, 2⟩ cx.env.popMask.1)
            ++ wirePayload (stIs state stClient) (f.plain.take 2) cx.env.popMask.1] := by
  obtain ⟨chunks, _, s1, hfl, _, hb1, _, hL⟩ := loop_ctl state want errText (stIs state stClient) inter r0 s cx fuel f rest hi hst hnf hok
    (Or.inr (Or.inr hop)) hacc hb hwf htame
  have hsb : ({ chunks := chunks } : CtlSrc).bytes = f.plain := hfl
  obtain ⟨e', hh, _, hw'⟩ := close_valid_ok (stIs state stClient) f.h { chunks := chunks } cx.env he errText hlen
    (by rw [hsb]; exact hok.plain_length) (by rw [hsb]; exact hok.plain_wf) (by rw [hsb]; exact hbody)
  rw [hsb] at hh hw'
  rw [handleControl_close hop, hh] at hL
  exact ⟨s1, _, hL, hb1, hw'⟩

/-- C08: ReadData at a close frame with an acceptable status and reason, behind any history: the 2-byte status is echoed
    in one final close frame (after the pongs), and ClosedError carries the peer's code and reason; no data. -/
theorem readData_close_valid (state want : Nat) (errText : ProtoErr → Bytes) (s : Src) (env : Env) (fuel : Nat)
    (items : List Item) (f : WFrame) (rest : Bytes)
    (hst : state < 256) (hnf : stIs state stFragmented = false) (he : EnvOk env)
    (hall : ∀ it ∈ items, it.Good state want)
    (hok : f.OK) (hop : f.h.op = opClose) (hfin : f.h.fin = true) (hlen : 2 ≤ f.h.len ∧ f.h.len ≤ 125)
    (hacc : checkHeader f.h state = none)
    (hbody : checkCloseFrameData (parseCloseFrameData f.plain).1 (parseCloseFrameData f.plain).2 = none)
    (hb : s.bytes = encodeFs (items.map Item.frame) ++ (f.enc ++ rest)) (hwf : Bytes.WF s.bytes) (htame : Src.Tame s) :
    ∃ s' cx' ws m, readData state want errText s env (fuel + 1 + items.length)
        = ([], 0, some (.closed (parseCloseFrameData f.plain).1 (parseCloseFrameData f.plain).2), s', cx')
      ∧ s'.bytes = rest
      ∧ cx'.env.dst.writes = env.dst.writes ++ ws ++
          [rfcEncode (wireHeader (stIs state stClient) ⟨true, 0, opClose, false, Mask.zero, 2⟩ m)
            ++ wirePayload (stIs state stClient) (f.plain.take 2) m]
      ∧ PongsFor (stIs state stClient) ws (pingsOf items) := by
  obtain ⟨r2, s2, cx2, h2, hi2, he2, hb2, hwf2, ht2, _, ws, hw2, hp2⟩ := (passes_items hst hnf items hall).readData s env (fuel + 1)
    (f.enc ++ rest) he hb hwf htame
  obtain ⟨s1, cx1, h3, hb3, hw3⟩ := loop_close_valid state want errText r2 s2 cx2 fuel f rest hi2 he2 hst hnf hok hop hlen hacc hbody hb2 hwf2 ht2
  exact ⟨s1, cx1, ws, _, h2.trans h3, hb3, by rw [hw3, hw2], hp2⟩

end Ws.C08

namespace Ws.C05
open Ws Ws.Spec Ws.RdProof Ws.RdText Ws.C06 Ws.C08 Ws.C04

theorem loop_refuses (state want : Nat) (errText : ProtoErr → Bytes) {client : Bool} {inter : Callback}
    (r0 : Rd) (s : Src) (cx : Ctx) (fuel : Nat) (h : Header) (junk : Bytes) (pe : ProtoErr)
    (hi : Idle state r0) (hhwf : h.WF)
    (hbad : checkHeader h state = some pe)
    (hb : s.bytes = rfcEncode h ++ junk) (hwf : Bytes.WF s.bytes) (htame : Src.Tame s) :
    ∃ s1, readData.loop want errText client inter (fuel + 1) r0 s cx = ([], 0, some (.proto pe), s1, cx) ∧ s1.bytes = junk := by
  obtain ⟨s1, hnext, hb1⟩ := nextFrame_refuses r0 s cx (some inter) h junk (.proto pe) hhwf hb hwf htame
    (Or.inl ⟨hi.skip, pe, hi.st ▸ hbad, rfl⟩)
  exact ⟨s1, by rw [readData.loop]; simp only [hnext], hb1⟩

/-- C05: ReadData reports the first offending frame behind any history of pings, pongs and unwanted messages: the
    protocol error naming the broken rule, no data, no opcode, the transport right behind the offending header. -/
theorem readData_refuses_bad_frame (state want : Nat) (errText : ProtoErr → Bytes) (s : Src) (env : Env) (fuel : Nat)
    (items : List Item) (h : Header) (junk : Bytes) (pe : ProtoErr)
    (hst : state < 256) (hnf : stIs state stFragmented = false) (he : EnvOk env)
    (hall : ∀ it ∈ items, it.Good state want)
    (hhwf : h.WF) (hbad : checkHeader h state = some pe)
    (hb : s.bytes = encodeFs (items.map Item.frame) ++ (rfcEncode h ++ junk)) (hwf : Bytes.WF s.bytes) (htame : Src.Tame s) :
    ∃ s' cx', readData state want errText s env (fuel + 1 + items.length) = ([], 0, some (.proto pe), s', cx')
      ∧ s'.bytes = junk := by
  obtain ⟨r2, s2, cx2, h2, hi2, _, hb2, hwf2, ht2, _⟩ := (passes_items hst hnf items hall).readData s env (fuel + 1) (rfcEncode h ++ junk) he
    hb hwf htame
  obtain ⟨s1, h3, hb3⟩ := loop_refuses state want errText r2 s2 cx2 fuel h junk pe hi2 hhwf hbad hb2 hwf2 ht2
  exact ⟨s1, cx2, h2.trans h3, hb3⟩

/-- the rule it names is really broken by that frame in that state (`C03.check_some_sound`, as in `nextFrame_error_sound`) -/
theorem readData_error_sound (state : Nat) (h : Header) (pe : ProtoErr) (hop : h.op < 16) (hst : state < 256)
    (hbad : checkHeader h state = some pe) : ∃ rule, ruleOf pe = some rule ∧ Broken rule h (stOf state) :=
  C03.check_some_sound h state hop hst pe hbad

example : (checkHeader { fin := true, rsv := 0, op := opText, masked := false, mask := Mask.zero, len := 1 } stServer).isSome = true := by decide

end Ws.C05

namespace Ws.C16
open Ws Ws.Spec Ws.RdProof Ws.RdText Ws.C06 Ws.C08 Ws.C04

theorem pull_cut (cb : Option Callback) (k : Nat) (hk : 0 < k) (fuel : Nat) :
    ∀ (r : Rd) (s : Src) (cx : Ctx) (acc : List Bytes), CutFrame r s → mu s + 1 < fuel →
      ∃ chunks e r' s', Rd.pull true k cb fuel r s cx acc = (chunks, e, r', s', cx)
        ∧ ((e = .ueof ∧ s.fin = .eof) ∨ (e = .fail ∧ s.fin = .fail)) := by
  induction fuel with
  | zero => intro r s cx acc _ hf; omega
  | succ n ih =>
    intro r s cx acc hc hf
    obtain ⟨got, e, s1, hread, _, hfin, hcase⟩ := read_cut r s cx cb k hc hk
    rw [Rd.pull]
    simp only [if_true, hread]
    rcases hcase with ⟨he, hmu, hc1⟩ | ⟨he, hfe⟩ | ⟨he, hfe⟩
    · subst he
      simp only
      obtain ⟨chunks, e2, r', s', hp, hcase2⟩ := ih (adv r got.length) s1 cx _ hc1 (by omega)
      rw [hfin] at hcase2
      exact ⟨chunks, e2, r', s', hp, hcase2⟩
    · subst he
      exact ⟨_, _, _, _, rfl, Or.inl ⟨rfl, hfe⟩⟩
    · subst he
      exact ⟨_, _, _, _, rfl, Or.inr ⟨rfl, hfe⟩⟩

theorem loop_cut (state want : Nat) (errText : ProtoErr → Bytes) {client : Bool} {inter : Callback}
    (r0 : Rd) (s : Src) (cx : Ctx) (fuel : Nat) (h : Header) (part : Bytes)
    (hi : Idle state r0) (hnf : stIs state stFragmented = false)
    (hhwf : h.WF) (hdata : opIsControl h.op = false) (hnt : h.op ≠ opText)
    (hwant : (h.op &&& want == 0) = false)
    (hacc : checkHeader h state = none)
    (hcut : part.length < h.len)
    (hb : s.bytes = rfcEncode h ++ part) (hwf : Bytes.WF s.bytes) (htame : Src.Tame s) :
    ((readData.loop want errText client inter (fuel + 1) r0 s cx).2.2.1 = some .ueof ∧ s.fin = .eof)
    ∨ ((readData.loop want errText client inter (fuel + 1) r0 s cx).2.2.1 = some .fail ∧ s.fin = .fail) := by
  obtain ⟨s1, hnext, hc1, hfin1⟩ := hi.nextFrame_cut hnf hhwf hnt hacc hcut hb hwf htame cx (some inter)
  obtain ⟨chunks, e, r', s', hp, hcase⟩ := pull_cut (some inter) 512 (by decide) (pullFuel s1) (enter r0 h) s1 cx [] hc1 (pullFuel_gt s1)
  rw [readData.loop]
  simp only [hnext, hdata, Bool.false_eq_true, if_false, hwant]
  unfold readAllRd
  rw [hp, ← hfin1]
  rcases hcase with ⟨rfl, hf⟩ | ⟨rfl, hf⟩
  · exact Or.inl ⟨by simp, hf⟩
  · exact Or.inr ⟨by simp, hf⟩

/-- C16: ReadData never takes a cut message for a whole one. After any history of pings, pongs and unwanted messages the
    wanted (non-text) message's payload is cut short: the result is io.ErrUnexpectedEOF or the transport's failure,
    for every chunking of the bytes that did arrive. -/
theorem readData_cut_never_succeeds (state want : Nat) (errText : ProtoErr → Bytes) (s : Src) (env : Env) (fuel : Nat)
    (items : List Item) (h : Header) (part : Bytes)
    (hst : state < 256) (hnf : stIs state stFragmented = false) (he : EnvOk env)
    (hall : ∀ it ∈ items, it.Good state want)
    (hhwf : h.WF) (hdata : opIsControl h.op = false) (hnt : h.op ≠ opText)
    (hwant : (h.op &&& want == 0) = false)
    (hacc : checkHeader h state = none)
    (hcut : part.length < h.len)
    (hb : s.bytes = encodeFs (items.map Item.frame) ++ (rfcEncode h ++ part)) (hwf : Bytes.WF s.bytes) (htame : Src.Tame s) :
    (readData state want errText s env (fuel + 1 + items.length)).2.2.1 = some .ueof
    ∨ (readData state want errText s env (fuel + 1 + items.length)).2.2.1 = some .fail := by
  obtain ⟨r2, s2, cx2, h2, hi2, _, hb2, hwf2, ht2, _⟩ := (passes_items hst hnf items hall).readData s env (fuel + 1) (rfcEncode h ++ part) he
    hb hwf htame
  rw [h2]
  exact (loop_cut state want errText r2 s2 cx2 fuel h part hi2 hnf hhwf hdata hnt hwant hacc hcut hb2 hwf2 ht2).imp And.left And.left

end Ws.C16
