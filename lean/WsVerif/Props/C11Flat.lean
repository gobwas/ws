/-
  C11, chunking independence: the outcome of Upgrader.Upgrade — handshake, error, every byte written,
  and what remains readable afterwards — is a function of the flat request bytes (and of how the stream
  ends), not of how the transport cuts them into reads, nor of whether the last bytes arrive together
  with the end of the stream (`upgrade_flat`; `dialerUpgrade_flat` for Dialer.Upgrade), and this for every
  buffer size (`readLine_spec` holds for every capacity). Assumption on the transport: it never returns
  (0, nil) (`Src.NoEmpty`). `hdrLoop_fuel` / `dlLoop_fuel`: the fuel of the model's loops plays no part once
  it exceeds the bytes to read.
-/
import WsVerif.Model.Dialer
import WsVerif.Proofs.BufioFlat
namespace Ws.C11
open Ws

/-- Two bufio readers with the same bytes ahead (buffer, then transport) and the same end of stream. -/
structure Same (b1 b2 : Bufio) : Prop where
  ok1 : BOK b1
  ok2 : BOK b2
  all : b1.all = b2.all
  fin : b1.src.fin = b2.src.fin

theorem Same.readLine_same {b1 b2 : Bufio} (h : Same b1 b2) :
    ∃ l e b1' b2', readLine b1 = (l, e, b1') ∧ readLine b2 = (l, e, b2') ∧ Same b1' b2' := by
  obtain ⟨a1, a2, a3, _⟩ := readLine_spec b1 h.ok1
  obtain ⟨c1, c2, c3, _⟩ := readLine_spec b2 h.ok2
  generalize readLine b1 = r1 at a1 a2 a3 ⊢
  generalize readLine b2 = r2 at c1 c2 c3 ⊢
  obtain ⟨l1, e1, b1'⟩ := r1
  obtain ⟨l2, e2, b2'⟩ := r2
  rw [h.all, h.fin] at a1
  have := a1.trans c1.symm
  simp only [Prod.mk.injEq] at this
  obtain ⟨rfl, rfl, hall⟩ := this
  exact ⟨l1, e1, b1', b2', rfl, rfl, a2, c2, hall, by rw [a3, c3, h.fin]⟩

theorem Same.init (cap : Nat) (hcap : 0 < cap) {s1 s2 : Src} (h1 : s1.NoEmpty) (h2 : s2.NoEmpty)
    (hb : s1.bytes = s2.bytes) (hf : s1.fin = s2.fin) : Same { cap, src := s1 } { cap, src := s2 } :=
  ⟨⟨hcap, h1, fun f hf' => by cases hf'⟩, ⟨hcap, h2, fun f hf' => by cases hf'⟩, by simp [Bufio.all, hb], hf⟩

theorem hdrLoop_same (cfg : UpCfg) (fuel : Nat) (b1 b2 : Bufio) (st : UpState) (err : Option HsErr) (h : Same b1 b2) :
    (∃ f st' c1 c2, hdrLoop cfg fuel b1 st err = .inl (f, c1, st') ∧ hdrLoop cfg fuel b2 st err = .inl (f, c2, st')
        ∧ c1.all = c2.all)
    ∨ ∃ st' e c1 c2, hdrLoop cfg fuel b1 st err = .inr (st', e, c1) ∧ hdrLoop cfg fuel b2 st err = .inr (st', e, c2)
        ∧ c1.all = c2.all := by
  induction fuel generalizing b1 b2 st err with
  | zero => exact .inr ⟨_, _, _, _, rfl, rfl, h.all⟩
  | succ n ih =>
    unfold hdrLoop
    by_cases he : err.isSome = true
    · rw [if_pos he, if_pos he]; exact .inr ⟨_, _, _, _, rfl, rfl, h.all⟩
    · rw [if_neg he, if_neg he]
      obtain ⟨l1, e1, b1', b2', hr1, hr2, r3⟩ := h.readLine_same
      rw [hr1, hr2]
      cases e1 with
      | some f => exact .inl ⟨_, _, _, _, rfl, rfl, r3.all⟩
      | none =>
        simp only
        by_cases hl : l1.isEmpty = true
        · rw [if_pos hl, if_pos hl]; exact .inr ⟨_, _, _, _, rfl, rfl, r3.all⟩
        · rw [if_neg hl, if_neg hl]
          cases httpParseHeaderLine l1 with
          | none => exact .inr ⟨_, _, _, _, rfl, rfl, r3.all⟩
          | some kv => exact ih b1' b2' _ _ r3

/-- The outcome of Upgrader.Upgrade — handshake, error, bytes written, and every byte that stays readable
    afterwards (buffer, then connection) — is a function of the flat request bytes and of how the stream ends. -/
theorem upgrade_flat (cfg : UpCfg) (s1 s2 : Src) (h1 : s1.NoEmpty) (h2 : s2.NoEmpty)
    (hb : s1.bytes = s2.bytes) (hf : s1.fin = s2.fin) :
    (upgrade cfg s1).1 = (upgrade cfg s2).1 ∧ (upgrade cfg s1).2.1 = (upgrade cfg s2).2.1
    ∧ (upgrade cfg s1).2.2.1 = (upgrade cfg s2).2.2.1
    ∧ (upgrade cfg s1).2.2.2.all = (upgrade cfg s2).2.2.2.all := by
  obtain ⟨l1, e1, b1', b2', hr1, hr2, r3⟩ :=
    (Same.init (max 16 (if cfg.readBuf = 0 then 4096 else cfg.readBuf)) (by omega) h1 h2 hb hf).readLine_same
  unfold upgrade
  simp only [hr1, hr2]
  cases e1 with
  | some f => exact ⟨rfl, rfl, rfl, r3.all⟩
  | none =>
    simp only
    cases httpParseVersion (bsplit3 l1 32).2.2 with
    | none => exact ⟨rfl, rfl, rfl, r3.all⟩
    | some mm =>
      simp only
      rw [← hb]
      rcases hdrLoop_same cfg (s1.bytes.length + 4) b1' b2' {} (upRequestLine cfg (bsplit3 l1 32).1 mm.1 mm.2) r3 with
        ⟨f, st', c1, c2, hh1, hh2, g⟩ | ⟨st', e, c1, c2, hh1, hh2, g⟩
      · rw [hh1, hh2]; exact ⟨rfl, rfl, rfl, g⟩
      · rw [hh1, hh2]
        simp only
        cases upFinish cfg st' e with
        | mk fe extra => cases fe <;> exact ⟨rfl, rfl, rfl, g⟩

theorem dlLoop_same (cfg : DialCfg) (nonce : Bytes) (fuel : Nat) (b1 b2 : Bufio) (hs : Handshake) (seen : Nat)
    (h : Same b1 b2) :
    ∃ hs' e c1 c2 seen', dlLoop cfg nonce fuel b1 hs seen = (hs', e, c1, seen')
      ∧ dlLoop cfg nonce fuel b2 hs seen = (hs', e, c2, seen') ∧ c1.all = c2.all := by
  induction fuel generalizing b1 b2 hs seen with
  | zero => exact ⟨_, _, _, _, _, rfl, rfl, h.all⟩
  | succ n ih =>
    unfold dlLoop
    obtain ⟨l1, e1, b1', b2', hr1, hr2, r3⟩ := h.readLine_same
    rw [hr1, hr2]
    cases e1 with
    | some f => exact ⟨_, _, _, _, _, rfl, rfl, r3.all⟩
    | none =>
      simp only
      by_cases hl : l1.isEmpty = true
      · rw [if_pos hl, if_pos hl]; exact ⟨_, _, _, _, _, rfl, rfl, r3.all⟩
      · rw [if_neg hl, if_neg hl]
        cases httpParseHeaderLine l1 with
        | none => exact ⟨_, _, _, _, _, rfl, rfl, r3.all⟩
        | some kv =>
          simp only
          cases (dlHeader cfg nonce hs seen kv.1 kv.2).2.2 with
          | some e => exact ⟨_, _, _, _, _, rfl, rfl, r3.all⟩
          | none => exact ih b1' b2' _ _ r3

/-- The outcome of Dialer.Upgrade — handshake, error, and every byte that stays readable afterwards
    (buffer, then connection) — is a function of the flat response bytes and of how the stream ends. -/
theorem dialerUpgrade_flat (cfg : DialCfg) (nonce : Bytes) (s1 s2 : Src) (h1 : s1.NoEmpty) (h2 : s2.NoEmpty)
    (hb : s1.bytes = s2.bytes) (hf : s1.fin = s2.fin) :
    (dialerUpgrade cfg nonce s1).1 = (dialerUpgrade cfg nonce s2).1
    ∧ (dialerUpgrade cfg nonce s1).2.1 = (dialerUpgrade cfg nonce s2).2.1
    ∧ (dialerUpgrade cfg nonce s1).2.2.all = (dialerUpgrade cfg nonce s2).2.2.all := by
  obtain ⟨l1, e1, b1', b2', hr1, hr2, r3⟩ :=
    (Same.init (max 16 (if cfg.readBuf = 0 then 4096 else cfg.readBuf)) (by omega) h1 h2 hb hf).readLine_same
  unfold dialerUpgrade
  simp only [hr1, hr2]
  cases e1 with
  | some f => exact ⟨rfl, rfl, r3.all⟩
  | none =>
    simp only
    cases dlStatusLine l1 with
    | some e => exact ⟨rfl, rfl, r3.all⟩
    | none =>
      simp only
      obtain ⟨hs', e, c1, c2, seen', hd1, hd2, g⟩ := dlLoop_same cfg nonce (s1.bytes.length + 4) b1' b2' {} 0 r3
      rw [← hb, hd1, hd2]
      cases e <;> exact ⟨rfl, rfl, g⟩

/-- Every header line read consumes at least its LF, so the rounds are bounded by the bytes to read:
    giving the header loop of Upgrader.Upgrade more fuel than that changes nothing. -/
theorem hdrLoop_fuel (cfg : UpCfg) (n m : Nat) (b : Bufio) (st : UpState) (err : Option HsErr) (hok : BOK b)
    (hn : b.all.length < n) (hm : n ≤ m) : hdrLoop cfg n b st err = hdrLoop cfg m b st err := by
  induction n generalizing m b st err with
  | zero => omega
  | succ n ih =>
    cases m with
    | zero => omega
    | succ m =>
      unfold hdrLoop
      by_cases he : err.isSome = true
      · rw [if_pos he, if_pos he]
      · rw [if_neg he, if_neg he]
        obtain ⟨l, e, b', hr, ok', hs⟩ := hok.readLine_ok
        rw [hr]
        cases e with
        | some f => rfl
        | none =>
          simp only
          by_cases hl : l.isEmpty = true
          · rw [if_pos hl, if_pos hl]
          · rw [if_neg hl, if_neg hl]
            cases httpParseHeaderLine l with
            | none => rfl
            | some kv => exact ih m b' _ _ ok' (by have := hs rfl; omega) (by omega)

theorem dlLoop_fuel (cfg : DialCfg) (nonce : Bytes) (n m : Nat) (b : Bufio) (hs : Handshake) (seen : Nat) (hok : BOK b)
    (hn : b.all.length < n) (hm : n ≤ m) : dlLoop cfg nonce n b hs seen = dlLoop cfg nonce m b hs seen := by
  induction n generalizing m b hs seen with
  | zero => omega
  | succ n ih =>
    cases m with
    | zero => omega
    | succ m =>
      unfold dlLoop
      obtain ⟨l, e, b', hr, ok', hsh⟩ := hok.readLine_ok
      rw [hr]
      cases e with
      | some f => rfl
      | none =>
        simp only
        by_cases hl : l.isEmpty = true
        · rw [if_pos hl, if_pos hl]
        · rw [if_neg hl, if_neg hl]
          cases httpParseHeaderLine l with
          | none => rfl
          | some kv =>
            simp only
            cases (dlHeader cfg nonce hs seen kv.1 kv.2).2.2 with
            | some e => rfl
            | none => exact ih m b' _ _ ok' (by have := hsh rfl; omega) (by omega)

/-- Three chunks, none empty, the last arriving together with EOF. -/
example : Src.NoEmpty { chunks := [[71, 69, 84], [32], [47, 13, 10]], fin := .eof, dataWithFin := true } := by
  intro c hc; simp at hc; rcases hc with rfl | rfl | rfl <;> simp

end Ws.C11
