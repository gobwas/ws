/-
  C09 / C10 — the numbers of an HTTP version (and the status token) are decimal digits and nothing
  else: `asciiToInt` yields a value only for a non-empty string of the bytes '0'..'9' — no sign, no
  blank, no separator (what strconv.Atoi would let through as "+1").
-/
import WsVerif.Proofs.Digits
namespace Ws.C10
open Ws

/-- `asciiToInt` accepts only non-empty strings of decimal digits. -/
theorem asciiToInt_digits (bs : Bytes) (m : Nat) (h : asciiToInt bs = some m) :
    bs ≠ [] ∧ ∀ c ∈ bs, 48 ≤ c ∧ c ≤ 57 := by
  rw [asciiToInt_eq] at h
  by_cases he : bs.isEmpty = true
  · simp [he] at h
  · rw [if_neg he] at h
    exact ⟨fun hn => he (by simp [hn]), (foldl_digitStep bs 0 m h).1⟩

/-- In particular a leading '+' (43) or '-' (45) is refused. -/
theorem asciiToInt_no_sign (bs : Bytes) (h : bs.head? = some 43 ∨ bs.head? = some 45) : asciiToInt bs = none := by
  cases hr : asciiToInt bs with
  | none => rfl
  | some m =>
    obtain ⟨_, hd⟩ := asciiToInt_digits bs m hr
    cases bs with
    | nil => simp at h
    | cons b bs =>
      have := hd b (by simp)
      simp at h
      omega

example : asciiToInt [43, 49] = none ∧ asciiToInt [49] = some 1 := by constructor <;> rfl

end Ws.C10
