/-
  C04 / C08 / C18 — the `wsutil.ReadData` family behind any history made of pings (0..125 bytes), pongs, unwanted
  unfragmented messages and unwanted fragmented messages (text or not, with pings and pongs between their fragments;
  `Seg`): the loop's reader is idle again behind all of it, every ping met on the way, between messages or between
  fragments, has been answered with exactly one pong with the identical payload, in order, and nothing else was
  written (`loop_history2`); the wanted message that follows (unfragmented or fragmented, a text iff the whole
  payload is well-formed UTF-8) is returned as if it had come first.
-/
import WsVerif.Props.C08DiscardFrag
import WsVerif.Props.C08ReadDataFrag
namespace Ws.C08
open Ws Ws.Spec Ws.RdProof Ws.RdCb Ws.RdText Ws.RdBin Ws.RdPong Ws.C06 Ws.C04

/-- a stretch of the history: control frames and unfragmented unwanted messages, or one fragmented unwanted message -/
inductive Seg where
  | items (its : List Item)
  | frag (f0 : WFrame) (fs : List WFrame)

def Seg.bytes : Seg → Bytes
  | .items its => encodeFs (its.map Item.frame)
  | .frag f0 fs => encodeFs (f0 :: fs)

/-- rounds of the ReadData loop a stretch takes: one per item; one for a whole fragmented message, since Discard
    skips all its frames within the round that met the first -/
def Seg.fuel : Seg → Nat
  | .items its => its.length
  | .frag _ _ => 1

def Seg.Good (state want : Nat) : Seg → Prop
  | .items its => ∀ it ∈ its, it.Good state want
  | .frag f0 fs => Message ({ state } : Rd) f0 fs ∧ f0.h.fin = false ∧ (f0.h.op &&& want == 0) = true
      ∧ ∀ f ∈ fs, opIsControl f.h.op = true → GoodCtl f

def segsBytes : List Seg → Bytes
  | [] => []
  | g :: gs => g.bytes ++ segsBytes gs

def segsFuel : List Seg → Nat
  | [] => 0
  | g :: gs => g.fuel + segsFuel gs

/-- what the history makes the handler write: per stretch, one pong per ping, in order -/
inductive SegWrites (client : Bool) : List Seg → List Bytes → Prop
  | nil : SegWrites client [] []
  | items (its : List Item) (gs : List Seg) (ws wr : List Bytes) :
      PongsFor client ws (pingsOf its) → SegWrites client gs wr → SegWrites client (.items its :: gs) (ws ++ wr)
  | frag (f0 : WFrame) (fs : List WFrame) (gs : List Seg) (ws wr : List Bytes) :
      Pongs client ws (pingsIn fs) → SegWrites client gs wr → SegWrites client (.frag f0 fs :: gs) (ws ++ wr)

variable {state want : Nat} {errText : ProtoErr → Bytes}

/-- the writes of one stretch are stated as what they put in front of the rest's, so that `Passes.append` composes them -/
theorem passes_seg (hst : state < 256) (hnf : stIs state stFragmented = false) (g : Seg) (hg : g.Good state want) :
    Passes (readData.loop want errText (stIs state stClient) (pongH (stIs state stClient) errText)) state g.bytes g.fuel
      (fun cx => EnvOk cx.env)
      (Wrote fun ws => ∀ gs wr, SegWrites (stIs state stClient) gs wr → SegWrites (stIs state stClient) (g :: gs) (ws ++ wr)) := by
  cases g with
  | items its => exact (passes_items hst hnf its hg).mono (Wrote.mono fun ws hp gs wr => SegWrites.items its gs ws wr hp)
  | frag f0 fs =>
    obtain ⟨hm, hfin, hunw, hgc⟩ := hg
    intro fuel rest r s cx hi he hb hwf ht
    obtain ⟨r1, s1, cx1, ws, h1, hi1, hb1, ht1, he1, hw1, hp1, hm1⟩ := loop_skip_frag state want errText r s cx fuel f0 fs rest hi he hst hnf
      hm hfin hunw hgc hb hwf ht
    exact ⟨r1, s1, cx1, h1, hi1, he1, hb1, hb1 ▸ wf_append_right (hb ▸ hwf), ht1, hm1, ws, hw1, fun gs wr => SegWrites.frag f0 fs gs ws wr hp1⟩

theorem passes_segs (hst : state < 256) (hnf : stIs state stFragmented = false) :
    ∀ gs : List Seg, (∀ g ∈ gs, g.Good state want) →
      Passes (readData.loop want errText (stIs state stClient) (pongH (stIs state stClient) errText)) state (segsBytes gs) (segsFuel gs)
        (fun cx => EnvOk cx.env) (Wrote (SegWrites (stIs state stClient) gs))
  | [], _ => Passes.nil (Wrote.refl SegWrites.nil)
  | g :: gs, hall =>
    (passes_seg hst hnf g (hall g (List.mem_cons_self ..))).append (passes_segs hst hnf gs fun x hx => hall x (List.mem_cons_of_mem _ hx)) rfl
      (Wrote.trans fun _ v hu hv => hu gs v hv)

theorem loop_history2 (state want : Nat) (errText : ProtoErr → Bytes)
    (fuel : Nat) (rest : Bytes) (hst : state < 256) (hnf : stIs state stFragmented = false)
    (gs : List Seg) (hall : ∀ g ∈ gs, g.Good state want) :
    ∀ (r0 : Rd) (s : Src) (cx : Ctx), Idle state r0 → EnvOk cx.env →
      s.bytes = segsBytes gs ++ rest → Bytes.WF s.bytes → Src.Tame s →
    ∃ r2 s2 cx2 ws, readData.loop want errText (stIs state stClient) (pongH (stIs state stClient) errText) (fuel + segsFuel gs) r0 s cx
        = readData.loop want errText (stIs state stClient) (pongH (stIs state stClient) errText) fuel r2 s2 cx2
      ∧ Idle state r2 ∧ s2.bytes = rest ∧ Bytes.WF s2.bytes ∧ Src.Tame s2 ∧ EnvOk cx2.env
      ∧ cx2.env.dst.writes = cx.env.dst.writes ++ ws ∧ SegWrites (stIs state stClient) gs ws
      ∧ cx2.msgs = cx.msgs := by
  intro r0 s cx hi he hb hwf ht
  obtain ⟨r2, s2, cx2, h2, hi2, he2, hb2, hwf2, ht2, hm2, ws, hw2, hp2⟩ := passes_segs hst hnf gs hall fuel rest r0 s cx hi he hb hwf ht
  exact ⟨r2, s2, cx2, ws, h2, hi2, hb2, hwf2, ht2, he2, hw2, hp2, hm2⟩

/-- C04 / C08: ReadData behind any such history on a fragmented wanted message (not text, pings and pongs between its
    fragments): returned whole, with the pongs of the history and then those for the pings between its fragments
    written. -/
theorem readData_fragmented_after_any_history (state want : Nat) (errText : ProtoErr → Bytes) (s : Src) (env : Env) (fuel : Nat)
    (gs : List Seg) (f0 : WFrame) (fs : List WFrame) (rest : Bytes)
    (hst : state < 256) (hnf : stIs state stFragmented = false) (he : EnvOk env)
    (hall : ∀ g ∈ gs, g.Good state want)
    (hm : Message ({ state } : Rd) f0 fs) (hfin : f0.h.fin = false) (hnt : f0.h.op ≠ opText)
    (hwant : (f0.h.op &&& want == 0) = false)
    (hg : ∀ f ∈ fs, opIsControl f.h.op = true → GoodCtl f)
    (hb : s.bytes = segsBytes gs ++ (encodeFs (f0 :: fs) ++ rest)) (hwf : Bytes.WF s.bytes) (htame : Src.Tame s) :
    ∃ s' cx' ws1 ws2, readData state want errText s env (fuel + 1 + segsFuel gs) = (dataPlain (f0 :: fs), f0.h.op, none, s', cx')
      ∧ s'.bytes = rest
      ∧ cx'.env.dst.writes = env.dst.writes ++ ws1 ++ ws2
      ∧ SegWrites (stIs state stClient) gs ws1 ∧ Pongs (stIs state stClient) ws2 (pingsIn fs) := by
  obtain ⟨r2, s2, cx2, h2, hi2, he2, hb2, hwf2, ht2, _, ws1, hw2, hp2⟩ := (passes_segs hst hnf gs hall).readData s env (fuel + 1)
    (encodeFs (f0 :: fs) ++ rest) he hb hwf htame
  obtain ⟨s', cx', ws2, h3, hb3, hw3, hp3, _⟩ := loop_fragmented state want errText r2 s2 cx2 fuel f0 fs rest hi2 he2 hst hnf
    (message_of_idle state r2 hi2 f0 fs hm) hnt hwant hg hb2 hwf2 ht2
  exact ⟨s', cx', ws1, ws2, h2.trans h3, hb3, by rw [hw3, hw2], hp2, hp3⟩

/-- C04 / C08: ReadData behind any such history on an unfragmented wanted message (not text). -/
theorem readData_single_after_any_history (state want : Nat) (errText : ProtoErr → Bytes) (s : Src) (env : Env) (fuel : Nat)
    (gs : List Seg) (f : WFrame) (rest : Bytes)
    (hst : state < 256) (hnf : stIs state stFragmented = false) (he : EnvOk env)
    (hall : ∀ g ∈ gs, g.Good state want)
    (hok : f.OK) (hfin : f.h.fin = true) (hdata : opIsControl f.h.op = false) (hnt : f.h.op ≠ opText)
    (hwant : (f.h.op &&& want == 0) = false)
    (hacc : checkHeader f.h state = none)
    (hb : s.bytes = segsBytes gs ++ (f.enc ++ rest)) (hwf : Bytes.WF s.bytes) (htame : Src.Tame s) :
    ∃ s' cx' ws, readData state want errText s env (fuel + 1 + segsFuel gs) = (f.plain, f.h.op, none, s', cx')
      ∧ s'.bytes = rest ∧ cx'.env.dst.writes = env.dst.writes ++ ws ∧ SegWrites (stIs state stClient) gs ws := by
  obtain ⟨r2, s2, cx2, h2, hi2, _, hb2, hwf2, ht2, _, ws, hw2, hp2⟩ := (passes_segs hst hnf gs hall).readData s env (fuel + 1) (f.enc ++ rest)
    he hb hwf htame
  obtain ⟨s', h3, hb3⟩ := loop_single state want errText r2 s2 cx2 fuel f rest hi2 hst hnf hok hfin hdata hnt hwant hacc hb2 hwf2 ht2
  exact ⟨s', cx2, ws, h2.trans h3, hb3, hw2, hp2⟩

/-- ReadData behind any such history on an unfragmented wanted text message: returned iff well-formed UTF-8 — whatever
    the reader skipped before, also fragmented texts that were not valid —, ErrInvalidUTF8 otherwise. -/
theorem readData_text_after_any_history (state want : Nat) (errText : ProtoErr → Bytes) (s : Src) (env : Env) (fuel : Nat)
    (gs : List Seg) (f : WFrame) (rest : Bytes)
    (hst : state < 256) (hnf : stIs state stFragmented = false) (he : EnvOk env)
    (hall : ∀ g ∈ gs, g.Good state want)
    (hok : f.OK) (hfin : f.h.fin = true) (htext : f.h.op = opText)
    (hwant : (opText &&& want == 0) = false)
    (hacc : checkHeader f.h state = none)
    (hb : s.bytes = segsBytes gs ++ (f.enc ++ rest)) (hwf : Bytes.WF s.bytes) (htame : Src.Tame s) :
    (wfUtf8 f.plain = true →
        ∃ s' cx' ws, readData state want errText s env (fuel + 1 + segsFuel gs) = (f.plain, opText, none, s', cx')
          ∧ s'.bytes = rest ∧ cx'.env.dst.writes = env.dst.writes ++ ws ∧ SegWrites (stIs state stClient) gs ws)
    ∧ (wfUtf8 f.plain = false → (readData state want errText s env (fuel + 1 + segsFuel gs)).2.2.1 = some .utf8) := by
  obtain ⟨r2, s2, cx2, h2, hi2, _, hb2, hwf2, ht2, _, ws, hw2, hp2⟩ := (passes_segs hst hnf gs hall).readData s env (fuel + 1) (f.enc ++ rest)
    he hb hwf htame
  rw [h2]
  have h3 := loop_single_text state want errText (stIs state stClient) r2 s2 cx2 fuel f rest
    hi2 hst hnf hok hfin htext hwant hacc hb2 hwf2 ht2
  refine ⟨fun hgd => ?_, h3.2⟩
  obtain ⟨s', h4, hb4⟩ := h3.1 hgd
  exact ⟨s', cx2, ws, h4, hb4, hw2, hp2⟩

/-- C07 / C08: ReadData behind any such history on a fragmented wanted text message, pings and pongs between its fragments:
    delivered, with the pongs written, iff the whole payload is well-formed UTF-8, wherever the fragment boundaries
    fall; ErrInvalidUTF8 otherwise. -/
theorem readData_fragmented_text_after_any_history (state want : Nat) (errText : ProtoErr → Bytes) (s : Src) (env : Env) (fuel : Nat)
    (gs : List Seg) (f0 : WFrame) (fs : List WFrame) (rest : Bytes)
    (hst : state < 256) (hnf : stIs state stFragmented = false) (he : EnvOk env)
    (hall : ∀ g ∈ gs, g.Good state want)
    (hm : Message ({ state } : Rd) f0 fs) (hfin : f0.h.fin = false) (htext : f0.h.op = opText)
    (hwant : (opText &&& want == 0) = false)
    (hg : ∀ f ∈ fs, opIsControl f.h.op = true → GoodCtl f)
    (hb : s.bytes = segsBytes gs ++ (encodeFs (f0 :: fs) ++ rest)) (hwf : Bytes.WF s.bytes) (htame : Src.Tame s) :
    (wfUtf8 (dataPlain (f0 :: fs)) = true →
      ∃ s' cx' ws1 ws2, readData state want errText s env (fuel + 1 + segsFuel gs) = (dataPlain (f0 :: fs), opText, none, s', cx')
        ∧ s'.bytes = rest
        ∧ cx'.env.dst.writes = env.dst.writes ++ ws1 ++ ws2
        ∧ SegWrites (stIs state stClient) gs ws1 ∧ Pongs (stIs state stClient) ws2 (pingsIn fs))
    ∧ (wfUtf8 (dataPlain (f0 :: fs)) = false → (readData state want errText s env (fuel + 1 + segsFuel gs)).2.2.1 = some .utf8) := by
  obtain ⟨r2, s2, cx2, h2, hi2, he2, hb2, hwf2, ht2, _, ws1, hw2, hp2⟩ := (passes_segs hst hnf gs hall).readData s env (fuel + 1)
    (encodeFs (f0 :: fs) ++ rest) he hb hwf htame
  rw [h2]
  have h3 := loop_fragmented_text state want errText r2 s2 cx2 fuel f0 fs rest hi2 he2 hst hnf
    (message_of_idle state r2 hi2 f0 fs hm) htext hwant hg hb2 hwf2 ht2
  refine ⟨fun hgd => ?_, h3.2⟩
  obtain ⟨s', cx', ws2, h4, hb4, hw4, hp4, _⟩ := h3.1 hgd
  exact ⟨s', cx', ws1, ws2, h4, hb4, by rw [hw4, hw2], hp2, hp4⟩

end Ws.C08
