/-
  C18 — Reset or pooled reuse makes writers, readers and negotiators behave as new.

  In the models a reset is a function of the old state; "behaves as new whatever happened before"
  is the statement that the result does not depend on the old state at all — it equals the
  freshly constructed value — for every old state (hence for every history that led to it).
  `Wr.reset` does take the old state apart. `FlWr.reset`, `NegSt.reset` and the four resets defined
  below ignore their first argument by definition, so their theorems only unfold them: what the Go
  methods assign, and to which fields, is checked against the source by Bridge/C18, Bridge/C14 and Bridge/Bodies.
-/
import WsVerif.Model.Writer
import WsVerif.Model.Flate
import WsVerif.Model.Utf8
import WsVerif.Model.Cipher
import WsVerif.Props.C14
namespace Ws.C18
open Ws

/-- wsutil.Writer.Reset = NewWriterBuffer on the same raw buffer, whatever state the writer was in:
    buffered data, dirty flag, fragment counter, extension, DisableFlush, the other side, an earlier
    destination error. -/
theorem writer_reset_fresh (w : Wr) (client : Bool) (op : Nat) :
    w.reset client op = newWriterBuffer client op w.rawLen := by
  unfold Wr.reset newWriterBuffer
  rfl

/-- Buffer growth is the one thing that survives: the reset writer is the fresh writer for the
    grown buffer. -/
theorem writer_reset_keeps_only_rawLen (w w' : Wr) (client : Bool) (op : Nat) (h : w.rawLen = w'.rawLen) :
    w.reset client op = w'.reset client op := by
  rw [writer_reset_fresh, writer_reset_fresh, h]

/-- ResetOp: unflushed fragments dropped; side, buffer, extensions and flush mode kept. -/
theorem resetOp_spec (w : Wr) (op : Nat) :
    (w.resetOp op).buf = [] ∧ (w.resetOp op).dirty = false ∧ (w.resetOp op).fseq = 0 ∧ (w.resetOp op).op = op
      ∧ (w.resetOp op).ext = w.ext ∧ (w.resetOp op).noFlush = w.noFlush ∧ (w.resetOp op).client = w.client
      ∧ (w.resetOp op).rawLen = w.rawLen ∧ (w.resetOp op).off = w.off := by
  simp [Wr.resetOp]

/-- GetWriter never depends on what was put before: it is a constructor (the pool key PutWriter
    uses, Size(), is never a size class GetWriter asks for). -/
theorem getWriter_is_constructor (client : Bool) (op n : Nat) :
    getWriter client op n = newWriterBufferSize client op (poolCeil n) := rfl

/-- `FlWr.reset`, the model of wsflate.Writer.Reset, unfolded: a new Writer on that destination, with
    no sticky error, withheld tail bytes or destination failure. -/
theorem flwriter_reset_fresh (w : FlWr) (d : Dst) : w.reset d = { cbuf := { dst := d } } := rfl

/-- The model of suffixedReader.reset(src): source set, suffix position 0 — the value NewReader builds
    (`sufrd_reset_fresh`). -/
def sufReset (_ : SufRd) (s : Src) : SufRd := { src := some s, pos := 0 }
theorem sufrd_reset_fresh (r : SufRd) (s : Src) : sufReset r s = { src := some s } := rfl

/-- The model of UTF8Reader.Reset: state, code point and accepted counter cleared (fix ee45f83). -/
def u8Reset (_ : Utf8Rd) : Utf8Rd := {}
theorem utf8_reset_fresh (u : Utf8Rd) : u8Reset u = {} := rfl

/-- The models of CipherReader/CipherWriter.Reset: new mask, position 0. -/
def cipherRdReset (_ : CipherRd) (m : Mask) : CipherRd := ⟨m, 0⟩
def cipherWrReset (_ : CipherWr) (m : Mask) : CipherWr := ⟨m, 0⟩
theorem cipher_reset_fresh (c : CipherRd) (c' : CipherWr) (m : Mask) :
    cipherRdReset c m = ⟨m, 0⟩ ∧ cipherWrReset c' m = ⟨m, 0⟩ := ⟨rfl, rfl⟩

/-- The negotiator after Reset is the fresh negotiator (C14.reset_fresh). -/
theorem negotiator_reset_fresh (s : NegSt) : s.reset = {} := C14.reset_fresh s

/-- A writer that has failed and holds data, reset, equals the fresh one. -/
example : (({ client := false, op := 1, rawLen := 64, off := 2, buf := [1, 2, 3], dirty := true, fseq := 2,
              noFlush := true, err := true, ext := some true } : Wr).reset true 2)
    = newWriterBuffer true 2 64 := by decide

end Ws.C18
