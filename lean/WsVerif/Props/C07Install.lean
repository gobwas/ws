/-
  C07 — which frames go through the UTF-8 validator is decided by the opcode of the message alone:
  every accepted frame of a text message does (first frame or continuation, whatever reserved bits
  it carries, whatever its length), no frame of a binary message does.
-/
import WsVerif.Proofs.ReaderFrame
namespace Ws.C07
open Ws

/-- Accepting a data frame (no receive extension) installs the validator exactly when checking is on
    and the message this frame belongs to is a text message — the frame's own opcode for a first
    frame, the remembered opcode for a continuation. Nothing else (RSV bits, length, masking, FIN)
    enters the decision. -/
theorem validator_iff_text (r : Rd) (s s1 : Src) (cx : Ctx) (cb : Option Callback) (hdr : Header)
    (hh : readHeaderUtil s = (.ok hdr, s1))
    (hc : (if r.skipCheck then none else checkHeader hdr r.state) = none)
    (hmax : ¬ (r.maxFrame > 0 ∧ hdr.len > r.maxFrame)) (hext : r.ext = false)
    (hdata : opIsControl hdr.op = false) :
    (r.nextFrame s cx cb).2.2.1.utf8on
      = (r.checkUTF8 && (hdr.op == opText || (r.fragmented && r.opCode == opText))) := by
  rw [RdProof.nextFrame_data r s s1 cx cb hdr hh ⟨hc, hmax⟩ hext hdata]
  rfl

/-- An extended-state server reader with checking on accepts a masked final text frame carrying RSV2, and the validator
    is installed for it. -/
example :
    (Rd.nextFrame { state := 5, checkUTF8 := true } { chunks := [[0xa1, 0x81, 1, 2, 3, 4, 0xfe]], fin := .eof } {} none).2.1 = none
    ∧ (Rd.nextFrame { state := 5, checkUTF8 := true } { chunks := [[0xa1, 0x81, 1, 2, 3, 4, 0xfe]], fin := .eof } {} none).2.2.1.utf8on = true := by
  constructor <;> rfl

/-- A control frame met outside a fragmented message (the reader hands it to the caller like a message of its
    own: ReadMessage returns it, ReadData answers it) is never put through the validator, whatever its opcode
    bits and payload: control payloads are not text. -/
theorem control_never_validated (r : Rd) (s s1 : Src) (cx : Ctx) (cb : Option Callback) (hdr : Header)
    (hh : readHeaderUtil s = (.ok hdr, s1))
    (hc : (if r.skipCheck then none else checkHeader hdr r.state) = none)
    (hmax : ¬ (r.maxFrame > 0 ∧ hdr.len > r.maxFrame)) (hext : r.ext = false)
    (hctl : opIsControl hdr.op = true) (hnf : r.fragmented = false) :
    (r.nextFrame s cx cb).2.2.1.utf8on = false := by
  have hne : hdr.op ≠ opText := fun h1 => absurd (h1 ▸ hctl) (by decide)
  rw [RdProof.nextFrame_enter r s s1 cx cb hdr hh ⟨hc, hmax⟩ hext (by rw [hnf, Bool.false_and])]
  simp [RdProof.enter, hne, hnf]

/-- a ping whose payload is not UTF-8, between messages, checking on: accepted, validator not installed -/
example :
    (Rd.nextFrame { state := 1, checkUTF8 := true } { chunks := [[0x89, 0x81, 0, 0, 0, 0, 0xff]], fin := .eof } {} none).2.1 = none
    ∧ (Rd.nextFrame { state := 1, checkUTF8 := true } { chunks := [[0x89, 0x81, 0, 0, 0, 0, 0xff]], fin := .eof } {} none).2.2.1.utf8on = false := by
  constructor <;> rfl

end Ws.C07
