/-
  C13 over histories. Sending: the RSV column read off `C06.history_ok` — in every history of the writer, frame 0 of
  each message, complete or still open, carries `extRsv` (RSV1 iff a compressed data message) and every other frame
  no RSV bit. Receiving: MessageState.UnsetBits folded over any header sequence (`recvRun`) — the state is the RSV1 of
  the most recent first data frame (`lastStart`), continuation and control frames in between do not disturb it, and
  the first misplaced RSV1 ends the run.
-/
import WsVerif.Props.C13
namespace Ws.C13
open Ws Ws.Spec Ws.C06

theorem extRsv_opAt (ext : Option Bool) (op i : Nat) :
    extRsv ext (opAt op i) = if i = 0 then extRsv ext op else 0 := by
  unfold opAt
  split <;> simp [extRsv_cont]

theorem openOK_rsv (op : Nat) (ext : Option Bool) : ∀ (fs : List AF) (i : Nat), openOK op ext i fs →
    ∀ (k : Nat) (hk : k < fs.length), fs[k].rsv = if i + k = 0 then extRsv ext op else 0
  | [], _, _, k, hk => by simp at hk
  | f :: fs, i, ⟨_, _, hr, hrest⟩, k, hk => by
    cases k with
    | zero => simpa [extRsv_opAt] using hr
    | succ k => simpa using openOK_rsv op ext fs (i + 1) hrest k (by simpa using hk)

theorem msgOK_rsv (op : Nat) (ext : Option Bool) (m : List AF) (h : msgOK op ext m) :
    ∀ (k : Nat) (hk : k < m.length), m[k].rsv = if k = 0 then extRsv ext op else 0 := by
  obtain ⟨pre, last, rfl, hopen, _, _, hr⟩ := h
  intro k hk
  by_cases hlt : k < pre.length
  · rw [List.getElem_append_left hlt]
    simpa using openOK_rsv op ext pre 0 hopen k hlt
  · have hk' : k = pre.length := by simp at hk; omega
    subst hk'
    simpa [extRsv_opAt] using hr

/-- Every history of the writer (Write / WriteThrough / FlushFragment / Flush): what was sent splits into whole messages
    and the frames of the message still open; in each, frame 0 carries `extRsv` of the configured opcode (RSV1 iff a
    compressed data message) and every other frame carries RSV = 0, however the message was fragmented. -/
theorem sent_rsv1_first_frame_only (w0 : Wr) (ops : List WOp) (hfresh : w0.fseq = 0) :
    ∃ (msgs : List (List AF)) (opn : List AF), (runA w0 ops).2.1 = msgs.flatten ++ opn
      ∧ (∀ m ∈ msgs, ∀ (k : Nat) (hk : k < m.length), m[k].rsv = if k = 0 then extRsv w0.ext w0.op else 0)
      ∧ (∀ (k : Nat) (hk : k < opn.length), opn[k].rsv = if k = 0 then extRsv w0.ext w0.op else 0) := by
  obtain ⟨⟨msgs, opn, hsplit, hm, ho, _⟩, _⟩ := (history_ok w0 ops hfresh).1
  refine ⟨msgs, opn, hsplit, fun m hmem => msgOK_rsv _ _ m (hm m hmem), ?_⟩
  intro k hk
  simpa using openOK_rsv _ _ opn 0 ho k hk

/-- no frame of any history carries RSV2 or RSV3, and none carries RSV1 unless compression is on for the message -/
theorem sent_rsv_values (w0 : Wr) (ops : List WOp) (hfresh : w0.fseq = 0) :
    ∀ f ∈ (runA w0 ops).2.1, f.rsv = 0 ∨ (f.rsv = 4 ∧ w0.ext = some true ∧ opIsData w0.op = true ∧ w0.op ≠ opContinuation) := by
  obtain ⟨msgs, opn, hsplit, hm, ho⟩ := sent_rsv1_first_frame_only w0 ops hfresh
  have hval : ∀ (k : Nat), (if k = 0 then extRsv w0.ext w0.op else 0) = 0
      ∨ ((if k = 0 then extRsv w0.ext w0.op else 0) = 4 ∧ w0.ext = some true ∧ opIsData w0.op = true ∧ w0.op ≠ opContinuation) := by
    intro k
    by_cases hc : w0.ext = some true ∧ opIsData w0.op = true ∧ w0.op ≠ opContinuation
    · by_cases hk : k = 0 <;> simp [extRsv_first, hc, hk]
    · simp [extRsv_first, hc]
  intro f hf
  rw [hsplit, List.mem_append] at hf
  rcases hf with hf | hf
  · obtain ⟨m, hmem, hfm⟩ := List.mem_flatten.mp hf
    obtain ⟨k, hk, rfl⟩ := List.getElem_of_mem hfm
    rw [hm m hmem k hk]; exact hval k
  · obtain ⟨k, hk, rfl⟩ := List.getElem_of_mem hf
    rw [ho k hk]; exact hval k

/-- the state run over a sequence of headers, stopping at the first refusal: the headers handed on, the
    refusal if any, the final state -/
def recvRun (c : Bool) : List Header → List Header × Option ProtoErr × Bool
  | [] => ([], none, c)
  | h :: hs =>
    match unsetBits c h with
    | (_, some e, c') => ([], some e, c')
    | (h', none, c') =>
      let (out, e, c'') := recvRun c' hs
      (h' :: out, e, c'')

/-- RSV1 of the most recent first data frame; `c` when there has been none -/
def lastStart (c : Bool) : List Header → Bool
  | [] => c
  | h :: hs => lastStart (if isFirstData h then h.rsv &&& 4 != 0 else c) hs

theorem recvRun_append (pre rest : List Header) (hok : ∀ h ∈ pre, misplaced h = false) (c : Bool) :
    recvRun c (pre ++ rest) =
      (pre.map handed ++ (recvRun (lastStart c pre) rest).1, (recvRun (lastStart c pre) rest).2) := by
  induction pre generalizing c with
  | nil => rfl
  | cons h hs ih =>
    obtain ⟨hm, hok⟩ := List.forall_mem_cons.1 hok
    rw [List.cons_append, recvRun, unsetBits_eq, hm]
    simp only [Bool.false_eq_true, if_false]
    rw [ih hok]
    rfl

/-- Every accepted history: no refusal, every header handed on with RSV1 cleared exactly where it may stand, and the
    state is the RSV1 of the most recent message start — continuation and control frames in between leave it alone. -/
theorem recv_history (hs : List Header) (hok : ∀ h ∈ hs, misplaced h = false) :
    ∀ c, recvRun c hs = (hs.map handed, none, lastStart c hs) := by
  intro c
  simpa [recvRun] using recvRun_append hs [] hok c

/-- A history ends at the first misplaced RSV1: everything before it was handed on, the error is the protocol error, and
    the state is still that of the last message start before it. -/
theorem recv_history_refused (pre : List Header) (bad : Header) (post : List Header)
    (hok : ∀ h ∈ pre, misplaced h = false) (hbad : misplaced bad = true) :
    ∀ c, recvRun c (pre ++ bad :: post) = (pre.map handed, some .unexpectedCompressionBit, lastStart c pre) := by
  intro c
  have hnf : isFirstData bad = false := by
    simp only [misplaced, Bool.and_eq_true, Bool.not_eq_true'] at hbad
    exact hbad.1
  simp [recvRun_append pre _ hok, recvRun, unsetBits_eq, hbad, hnf]

/-- control frames and continuations between fragments do not disturb the state -/
theorem recv_state_undisturbed (c : Bool) (hs : List Header) (hn : ∀ h ∈ hs, isFirstData h = false) :
    lastStart c hs = c := by
  induction hs with
  | nil => rfl
  | cons h hs ih =>
    rw [lastStart, hn h (List.mem_cons_self ..)]
    exact ih (fun g hg => hn g (List.mem_cons_of_mem _ hg))

/-- the handed-on header differs from the received one in RSV1 only -/
theorem handed_fields (h : Header) (hr : h.rsv < 8) :
    (handed h).fin = h.fin ∧ (handed h).op = h.op ∧ (handed h).masked = h.masked ∧ (handed h).mask = h.mask
      ∧ (handed h).len = h.len ∧ (handed h).rsv % 4 = h.rsv % 4 ∧ (isFirstData h = true → (handed h).rsv < 4) := by
  unfold handed
  split
  · simp [(rsv_bits _ hr).2, Nat.mod_lt]
  · simp [*]

/- a compressed text in three fragments with a ping in between, then an uncompressed binary -/
example : recvRun false [⟨false, 4, 1, false, Mask.zero, 1⟩, ⟨true, 0, 9, false, Mask.zero, 0⟩, ⟨false, 0, 0, false, Mask.zero, 1⟩,
                         ⟨true, 0, 0, false, Mask.zero, 1⟩, ⟨true, 0, 2, false, Mask.zero, 1⟩] =
    ([⟨false, 0, 1, false, Mask.zero, 1⟩, ⟨true, 0, 9, false, Mask.zero, 0⟩, ⟨false, 0, 0, false, Mask.zero, 1⟩,
      ⟨true, 0, 0, false, Mask.zero, 1⟩, ⟨true, 0, 2, false, Mask.zero, 1⟩], none, false) := by decide
example : lastStart false [⟨false, 4, 1, false, Mask.zero, 1⟩, ⟨true, 0, 9, false, Mask.zero, 0⟩, ⟨false, 0, 0, false, Mask.zero, 1⟩] = true := by decide

end Ws.C13
