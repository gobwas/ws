/-
  C16 — Truncated or failing transports never yield a complete-looking message.

  Reader side: a transport that ends inside a frame, or between two frames of an open message, is
  io.ErrUnexpectedEOF (or the transport's own failure), never io.EOF and never nil — for one read of the frame
  reader, for whole read loops, and for Reader.Discard called anywhere before the cut. Discard gets past the complete
  frames by `RdProof.discard_frames` / `discard_to_next`; what is proved here is the round that meets the cut.
  Scope: `cut_payload_non_eof`, `cut_between_fragments_is_error`, `discard_cut` and `discard_ends_between_fragments`
  hold of any reader with any OnIntermediate handler; `cut_payload_never_succeeds` of a frame read without the
  validator, `cut_text_payload_never_succeeds` of a text frame with CheckUTF8 on; the theorems that get past complete
  frames first (`Tail`, `Common`: `discard_open_tail`, `discard_cut_in_later_*`, `stream_ends_between_fragments`) are
  for no receive extension, CheckUTF8 off, OnIntermediate unset.
  Writer side: after a destination error every Write / WriteThrough / Flush / FlushFragment returns the error and
  the destination receives nothing more.
-/
import WsVerif.Props.C04
import WsVerif.Proofs.Reader
import WsVerif.Proofs.ReaderSim
namespace Ws.C16
open Ws Ws.Spec

/-- The transport ending inside a frame payload is never a clean end: the frame reader says io.EOF only when nothing of
    the frame is outstanding. -/
theorem cut_payload_non_eof (r : Rd) (s : Src) (k : Nat) (h : (r.rawRead s k).2.1 = some .eof) :
    (r.rawRead s k).2.2.1.rawN = 0 :=
  (C04.rawRead_flat r s k).2.2.2 h

/-- A stream that ends (cleanly) where the next fragment of an open message should start is
    reported as io.ErrUnexpectedEOF, not io.EOF. -/
theorem cut_between_fragments_is_error (r : Rd) (s : Src) (cx : Ctx) (cb : Option Callback)
    (hfrag : r.fragmented = true) (hempty : s.bytes = []) (hfin : s.fin = .eof) :
    (r.nextFrame s cx cb).2.1 = some .ueof := by
  obtain ⟨e, s', h1, _, _, h4, _⟩ := s.readFull_err 2 (by rw [hempty]; simp)
  have he : e = .eof := h4.mpr ⟨hempty, hfin⟩
  have hh : readHeaderUtil s = (.error (.io .eof), s') := by unfold readHeaderUtil; simp [h1, he]
  rw [NF.nextFrame_err hh]
  simp [NF.hdrErr, hfrag]

theorem drainRaw_fin (fuel : Nat) (r : Rd) (s : Src) : (r.drainRaw s fuel).2.2.fin = s.fin := RdProof.drainRaw_fin fuel r s

theorem readHeaderUtil_fin (s : Src) : (readHeaderUtil s).2.fin = s.fin := RdProof.readHeaderUtil_fin s

theorem nextFrame_src_fin (r : Rd) (s : Src) (cx : Ctx) : (r.nextFrame s cx none).2.2.2.1.fin = s.fin := by
  have hf := readHeaderUtil_fin s
  rw [NF.nextFrame_eq]
  cases (readHeaderUtil s).1 with
  | error e => exact hf
  | ok hdr =>
    rcases NF.accept_none_src r hdr (readHeaderUtil s).2 cx with h | ⟨r2, h⟩
    · rw [h]; exact hf
    · rw [h, drainRaw_fin]; exact hf

open Ws.RdProof

/-- Reads of a cut payload end in a non-EOF error. The reader is inside a frame (no UTF-8 layer) and the transport holds
    fewer bytes than the frame still announces — the peer or the network cut it. For every chunking and every
    sequence of caller buffers: what Read hands out is a genuine unmasked prefix of the bytes that did arrive, and the
    error is never io.EOF, so no read-until-EOF helper can take the partial message for a whole one; after at most
    (bytes + chunks + 1) Reads it is io.ErrUnexpectedEOF (transport ended) or the transport's failure. -/
theorem cut_payload_never_succeeds (ks : List Nat) (hpos : ∀ k ∈ ks, 0 < k) (r : Rd) (s : Src) (cx : Ctx)
    (h : CutFrame r s) :
    ∃ raw out e r' s', reads r s cx ks = some (out, e, r', s', cx) ∧ out = plainOf r raw ∧ raw ++ s'.bytes = s.bytes
      ∧ e ≠ some .eof
      ∧ (mu s < ks.length → e = some .ueof ∨ e = some .fail) := by
  obtain ⟨raw, out, e, r', s', h1, h2, h3, h4⟩ := reads_cut ks hpos r s cx h
  refine ⟨raw, out, e, r', s', h1, h2, h3, ?_, ?_⟩
  · rcases h4 with ⟨he, _⟩ | ⟨he, _⟩ | ⟨he, _⟩ <;> rw [he] <;> simp
  · intro hl
    rcases h4 with ⟨_, hm⟩ | ⟨he, _⟩ | ⟨he, _⟩
    · omega
    · exact Or.inl he
    · exact Or.inr he

/-- The same for a text frame read with CheckUTF8 on, `σ` being the Table 3-7 position the text delivered so far has
    reached: a cut text frame never ends in io.EOF either — the Reads hand out a genuine prefix of what arrived and
    then report io.ErrUnexpectedEOF, the transport's failure, or (if the bytes that did arrive are not UTF-8)
    ErrInvalidUTF8; one of the three after at most (bytes + chunks + 1) Reads. -/
theorem cut_text_payload_never_succeeds (ks : List Nat) (hpos : ∀ k ∈ ks, 0 < k) (σ : Spec.U8) (r : Rd) (s : Src) (cx : Ctx)
    (htm : RdText.TM σ r) (hhas : r.hasFrame = true) (hshort : s.bytes.length < r.rawN)
    (hwf : Bytes.WF s.bytes) (hmwf : r.mask.WF) :
    ∃ out e r' s' cx', reads r s cx ks = some (out, e, r', s', cx')
      ∧ (∃ raw more rest, out ++ more = plainOf r raw ∧ raw ++ rest = s.bytes)
      ∧ e ≠ some .eof
      ∧ (mu s < ks.length → e = some .ueof ∨ e = some .fail ∨ e = some .utf8) := by
  have hcut : CutFrame (RdText.strip r) s := ⟨hhas, rfl, hshort, hwf, hmwf⟩
  obtain ⟨raw, out, e, q', s', h1, h2, h3, h4, h5⟩ := cut_payload_never_succeeds ks hpos (RdText.strip r) s cx hcut
  have hpo : plainOf (RdText.strip r) raw = plainOf r raw := rfl
  have hrawwf : Bytes.WF raw := by rw [← h3] at hwf; exact (Bytes.wf_append.mp hwf).1
  have howf : Bytes.WF out := by rw [h2, hpo]; exact plainOf_wf r hmwf raw hrawwf
  rcases RdText.reads_sim ks σ r s cx htm out e q' s' cx h1 howf with
    ⟨_, _, r', a3, _, _⟩ | ⟨_, out', r', s'', cx'', a3, more', a4⟩
  · refine ⟨out, e, r', s', cx, a3, ⟨raw, [], s'.bytes, by rw [List.append_nil, h2, hpo], h3⟩, h4, fun hl => ?_⟩
    rcases h5 hl with h | h
    · exact Or.inl h
    · exact Or.inr (Or.inl h)
  · exact ⟨out', some .utf8, r', s'', cx'', a3, ⟨raw, more', s'.bytes, by rw [← a4, h2, hpo], h3⟩, by simp, fun _ => Or.inr (Or.inr rfl)⟩

/-- A stream ending between the fragments of a message (after any valid prefix of the message has been read): the Read
    that has to fetch the next fragment reports io.ErrUnexpectedEOF, never a clean end of stream. -/
theorem stream_ends_between_fragments (ao skip : Bool) (st maxF : Nat) (r : Rd) (s : Src) (cx : Ctx) (k : Nat)
    (hend : AtEnd ao skip st maxF [] r s []) (hfin : s.fin = .eof) :
    ∃ r1 s1 cx1, r.read s cx k none = some ([], 0, some .ueof, r1, s1, cx1) := by
  have hfrag : r.fragmented = true := hend.common.frag hend.state
  have h := cut_between_fragments_is_error r s cx none hfrag hend.bytes hfin
  rcases hn : r.nextFrame s cx none with ⟨hd, e, r1, s1, cx1⟩
  rw [hn] at h
  cases h
  exact ⟨r1, s1, cx1, read_refused k hend.has hfrag hn⟩

/-- Discard of a cut frame: the error is io.ErrUnexpectedEOF when the transport ended, the transport's failure when it
    failed — in particular never nil, so `Discard` (and the helpers that skip messages of the other type) cannot take
    a cut message for a skipped one. -/
theorem discard_cut (r : Rd) (s : Src) (cx : Ctx) (cb : Option Callback) (fuel : Nat)
    (hshort : s.bytes.length < r.rawN) :
    ((r.discard s cx cb (fuel + 1)).1 = some .ueof ∧ s.fin = .eof)
    ∨ ((r.discard s cx cb (fuel + 1)).1 = some .fail ∧ s.fin = .fail) := by
  have h := drainRaw_cut s.fuel r s hshort (by unfold Src.fuel mu; omega)
  unfold Rd.discard
  rcases hd : r.drainRaw s s.fuel with ⟨e, r1, s1⟩
  rw [hd] at h
  simp only at h ⊢
  rcases h with ⟨he, hf⟩ | ⟨he, hf⟩
  · subst he; exact Or.inl ⟨rfl, hf⟩
  · subst he; exact Or.inr ⟨rfl, hf⟩

/-- a masked 5-byte frame of which 2 bytes arrived, the stream then ending cleanly -/
example : (Rd.discard { state := 1, hasFrame := true, rawN := 5, masked := true, mask := ⟨1, 2, 3, 4⟩ }
    { chunks := [[9], [8]], fin := .eof } {} none 3).1 = some .ueof := by rfl

/-- Discard when the stream ends cleanly between two fragments (the current, non-final frame is complete, nothing
    follows): io.ErrUnexpectedEOF — the message was cut, it was not skipped. -/
theorem discard_ends_between_fragments (r : Rd) (s : Src) (cx : Ctx) (cb : Option Callback) (fuel : Nat)
    (hfrag : r.fragmented = true) (hn : r.rawN = s.bytes.length) (htame : Src.Tame s) (hfin : s.fin = .eof) :
    (r.discard s cx cb (fuel + 1)).1 = some .ueof := by
  obtain ⟨s', hd, hb, _, hf, _⟩ := drain_frame r s (wire := s.bytes) (rest := []) (by simp) hn htame
  have hf' : s'.fin = .eof := hf.trans hfin
  have hfr : ({ r with rawN := 0 } : Rd).fragmented = true := by simpa [Rd.fragmented] using hfrag
  have hnf := cut_between_fragments_is_error { r with rawN := 0 } s' cx cb hfr hb hf'
  unfold Rd.discard
  simp only [hd, hfr, Bool.not_true, Bool.false_eq_true, if_false]
  rcases hx : ({ r with rawN := 0 } : Rd).nextFrame s' cx cb with ⟨h, e2, r2, s2, cx2⟩
  rw [hx] at hnf
  simp only at hnf ⊢
  subst hnf
  rfl

/-- The stream ends cleanly between two frames of a message after any number of complete fragments and interleaved
    control frames: Discard called anywhere before says io.ErrUnexpectedEOF. -/
theorem discard_open_tail (skip : Bool) (st maxF : Nat) (cx : Ctx) (fs : List WFrame)
    (ht : Tail true skip st maxF fs) (hopen : closed fs = false) :
    ∀ (r : Rd) (s : Src) (wire : Bytes) (fuel : Nat),
      Common skip st maxF r s → r.state = st → r.rawN = wire.length → s.bytes = wire ++ encodeFs fs →
      s.fin = .eof → fs.length < fuel →
      (r.discard s cx none fuel).1 = some .ueof := by
  intro r s wire fuel hc hst hn hb hfin hfuel
  obtain ⟨n, rfl⟩ : ∃ n, fuel = (n + 1) + fs.length := ⟨fuel - fs.length - 1, by omega⟩
  obtain ⟨r1, s1, cx1, wire1, hd, hc1, hst1, hn1, hb1, hf1, _⟩ := discard_frames handles_none [] ht (n + 1) r s wire cx
    (fun _ _ _ => trivial) hc.cfg hst hn (by simpa using hb) trivial
  rw [hopen] at hst1
  rw [hd]
  exact discard_ends_between_fragments r1 s1 cx1 none n (hc1.frag hst1) (by rw [hb1, hn1]; simp) hc1.tame (by rw [hf1, hfin])

/-- With the frames of Props/C04: the reader is in the first fragment, a ping and an empty non-final fragment follow
    complete, then the stream ends. -/
example : Tail true false 9 0 [C04.exPing, C04.exF1] ∧ closed [C04.exPing, C04.exF1] = false := by
  refine ⟨?_, by decide⟩
  refine Tail.ctl _ _ ⟨by decide, by decide, by decide, by decide⟩ (by decide) ⟨by decide, by decide⟩ ?_
  refine Tail.cont _ _ ⟨by decide, by decide, by decide, by decide⟩ (by decide) (by decide) ⟨by decide, by decide⟩ ?_
  exact Tail.opn rfl
example :
    (match C04.exR0.nextFrame { chunks := [encodeFs [C04.exF0, C04.exPing], encodeFs [C04.exF1]], fin := .eof } {} none with
     | (_, _, r1, s1, cx) => (r1.discard s1 cx none 4).1) = some .ueof := by decide

/-- The message is cut inside the payload of a later data frame `h` (accepted, announcing more than the `part` that
    arrives), after any number of complete fragments and interleaved control frames: Discard called anywhere before
    reports io.ErrUnexpectedEOF when the transport then ends cleanly. -/
theorem discard_cut_in_later_frame (skip : Bool) (st maxF : Nat) (cx : Ctx) (h : Header) (part : Bytes)
    (hw : h.WF) (hdata : opIsControl h.op = false) (hacc : AcceptsAt skip st maxF h) (hshort : part.length < h.len)
    (fs : List WFrame) (ht : Tail true skip st maxF fs) (hopen : closed fs = false)
    (r : Rd) (s : Src) (wire : Bytes)
    (hc : Common skip st maxF r s) (hst : r.state = st) (hn : r.rawN = wire.length)
    (hb : s.bytes = wire ++ (encodeFs fs ++ (rfcEncode h ++ part))) (hfin : s.fin = .eof) :
    (r.discard s cx none (fs.length + 3)).1 = some .ueof := by
  obtain ⟨r1, s1, cx1, hc1, hst1, hb1, hf1, hrun, _, hnext, _⟩ := discard_to_next handles_none (rfcEncode h ++ part) ht hopen 2
    r s wire cx (fun _ _ _ => trivial) hc.cfg hst hn hb trivial
  cases run_none hrun
  obtain ⟨s2, hnf, hb2, _, _, _, hf2⟩ := nextFrame_at r1 s1 cx none h part hc1.ext hb1 hc1.wf hc1.tame hw (hc1.accepts hst1 hacc)
    (by rw [hdata, Bool.and_false])
  rw [show fs.length + 3 = 2 + 1 + fs.length by omega, hnext _ _ _ _ hnf]
  rcases discard_cut (enter r1 h) s2 cx none 1 (by rw [hb2]; simpa [enter] using hshort) with ⟨he, _⟩ | ⟨_, hf⟩
  · exact he
  · rw [hf2, hf1, hfin] at hf; cases hf

theorem nextFrame_ctl_cut (r : Rd) (s s1 : Src) (cx : Ctx) (h : Header)
    (hh : readHeaderUtil s = (.ok h, s1)) (ha : Accepts r h) (hext : r.ext = false)
    (hctl : opIsControl h.op = true) (hfrag : r.fragmented = true)
    (hshort : s1.bytes.length < h.len) (hfin : s1.fin = .eof) :
    (r.nextFrame s cx none).2.1 = some .ueof := by
  rw [nextFrame_ctl_eq r s s1 cx none h hh ha hext hctl hfrag]
  rcases drainRaw_cut s1.fuel (NF.armed r h r.compressed) s1 hshort (by unfold Src.fuel mu; omega) with ⟨he, _⟩ | ⟨_, hf⟩
  · exact he
  · rw [hfin] at hf; cases hf

/-- The same with the cut inside the payload of an interleaved control frame `h`. -/
theorem discard_cut_in_later_control (skip : Bool) (st maxF : Nat) (cx : Ctx) (h : Header) (part : Bytes)
    (hw : h.WF) (hctl : opIsControl h.op = true) (hacc : AcceptsAt skip st maxF h) (hshort : part.length < h.len)
    (fs : List WFrame) (ht : Tail true skip st maxF fs) (hopen : closed fs = false)
    (r : Rd) (s : Src) (wire : Bytes)
    (hc : Common skip st maxF r s) (hst : r.state = st) (hn : r.rawN = wire.length)
    (hb : s.bytes = wire ++ (encodeFs fs ++ (rfcEncode h ++ part))) (hfin : s.fin = .eof) :
    (r.discard s cx none (fs.length + 3)).1 = some .ueof := by
  obtain ⟨r1, s1, cx1, hc1, hst1, hb1, hf1, hrun, _, _, herr⟩ := discard_to_next handles_none (rfcEncode h ++ part) ht hopen 2
    r s wire cx (fun _ _ _ => trivial) hc.cfg hst hn hb trivial
  cases run_none hrun
  obtain ⟨s2, hrh, hb2, _, _, _, hf2⟩ := readHeader_at h hw part s1 hb1 hc1.wf hc1.tame
  have hnx := nextFrame_ctl_cut r1 s1 s2 cx h hrh (hc1.accepts hst1 hacc) hc1.ext hctl (hc1.frag hst1)
    (by rw [hb2]; exact hshort) (by rw [hf2, hf1, hfin])
  rcases hx : r1.nextFrame s1 cx none with ⟨h', e2, r2, s3, cx2⟩
  rw [hx] at hnx
  cases hnx
  rw [show fs.length + 3 = 2 + 1 + fs.length by omega, herr _ _ _ _ _ hx]

/-- With the frames of Props/C04: first fragment and a ping complete, then the header of the final fragment (2 bytes
    announced) with 1 byte behind it, end of stream. -/
example :
    (match C04.exR0.nextFrame { chunks := [encodeFs [C04.exF0, C04.exPing], rfcEncode C04.exF2.h ++ [0x69]], fin := .eof } {} none with
     | (_, _, r1, s1, cx) => (r1.discard s1 cx none 4).1) = some .ueof := by decide

theorem write_sticky (w : Wr) (e : Env) (p : Bytes) (h : w.err = true) :
    ∃ w', w.write e p = some (0, some .dest, w', e) ∧ w'.err = true := by
  unfold Wr.write Wr.write.loop
  simp [h]

theorem writeThrough_sticky (w : Wr) (e : Env) (p : Bytes) (h : w.err = true) :
    w.writeThrough e p = some (0, some .dest, w, e) := by
  unfold Wr.writeThrough; simp [h]

theorem flush_sticky (w : Wr) (e : Env) (h : w.err = true) : w.flush e = some (some .dest, w, e) := by
  unfold Wr.flush; simp [h]

theorem flushFrag_sticky (w : Wr) (e : Env) (h : w.err = true) : w.flushFrag e = some (some .dest, w, e) := by
  unfold Wr.flushFrag; simp [h]

/-- A destination that refuses a write records nothing. -/
theorem dst_fail_writes (d : Dst) (p : Bytes) (h : (d.write p).1 = false) : (d.write p).2.writes = d.writes := by
  unfold Dst.write at *
  split <;> simp_all

/-- A failing destination write inside Flush makes the error sticky (so, by the theorems above,
    every later write and flush fails and sends nothing). -/
theorem flush_failure_sets_err (w : Wr) (e e' : Env)
    (hf : w.flushFragment e true = some (false, e')) (hd : w.dirty = true) (herr : w.err = false) :
    ∃ w', w.flush e = some (some .dest, w', e') ∧ w'.err = true := by
  unfold Wr.flush
  simp [hd, herr, hf]

theorem flushFrag_failure_sets_err (w : Wr) (e e' : Env)
    (hf : w.flushFragment e false = some (false, e')) (hb : w.buf ≠ []) (herr : w.err = false) :
    ∃ w', w.flushFrag e = some (some .dest, w', e') ∧ w'.err = true := by
  unfold Wr.flushFrag
  cases hbb : w.buf with
  | nil => exact absurd hbb hb
  | cons x xs => simp [herr, hf, hbb] at *

end Ws.C16
