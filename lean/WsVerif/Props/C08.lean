/-
  C08 — Automatic control-frame replies are always valid frames with the right content.
-/
import WsVerif.Model.Control
import WsVerif.Props.C06
import WsVerif.Props.C03
import WsVerif.Proofs.StrBytes
import WsVerif.Proofs.Utf8
namespace Ws.C08
open Ws Ws.Spec Ws.C06

/-- Invariant of a ControlWriter between calls: everything accepted so far is sitting in the
    underlying buffer, the running count is exact, and it never exceeds the 125-byte limit. -/
structure CInv (c : CtlWr) : Prop where
  inv : Inv c.w
  count : c.w.buf.length = c.n
  le_limit : c.n ≤ c.limit
  limit_le : c.limit ≤ 125
  limit_size : c.limit ≤ c.w.size
  flushing : c.w.noFlush = false
  no_err : c.w.err = false
  first : c.w.fseq = 0

theorem CInv.buf_le {c : CtlWr} (h : CInv c) : c.w.buf.length ≤ 125 := by
  have := h.count; have := h.le_limit; have := h.limit_le; omega

theorem ctl_write_spec (c : CtlWr) (e : Env) (p : Bytes) (h : CInv c) :
    (c.n + p.length > c.limit → c.write e p = some (0, some .ctlOverflow, c, e))
    ∧ (c.n + p.length ≤ c.limit →
        ∃ c', c.write e p = some (p.length, none, c', e) ∧ CInv c'
          ∧ c'.w.buf = c.w.buf ++ p ∧ c'.limit = c.limit ∧ c'.w.op = c.w.op ∧ c'.w.client = c.w.client
          ∧ c'.w.ext = c.w.ext ∧ c'.w.dirty = true) := by
  constructor
  · intro hgt; unfold CtlWr.write; simp [hgt]
  · intro hle
    have hav : p.length ≤ c.w.available := by
      have h1 := h.limit_size; have h2 := h.count
      simp only [Wr.available] at *
      omega
    have hng : ¬ (c.n + p.length > c.limit) := by omega
    unfold CtlWr.write
    simp only [hng, if_false, write_fits c.w e p hav h.no_err]
    refine ⟨_, rfl, ⟨⟨h.inv.off_eq, h.inv.room, ?_⟩, ?_, ?_, h.limit_le, h.limit_size, h.flushing, h.no_err, h.first⟩,
      rfl, rfl, rfl, rfl, rfl, rfl⟩
    · have h1 := h.limit_size; have h2 := h.count
      simp only [Wr.size, List.length_append] at *; omega
    · simp only [List.length_append]; have := h.count; omega
    · simp only; omega

/-- A run of Writes, each made whatever the one before it returned (`none` = a panic). -/
def ctlWrites (c : CtlWr) (e : Env) : List Bytes → Option (CtlWr × Env)
  | [] => some (c, e)
  | p :: ps => match c.write e p with
    | none => none
    | some (_, _, c', e') => ctlWrites c' e' ps

/-- Whatever sequence of writes a ControlWriter is given, the invariant survives and nothing
    reaches the destination before Flush: no fragment can be emitted, and the bytes accepted in
    total never exceed 125. -/
theorem ctlwriter_never_oversized (ps : List Bytes) (c : CtlWr) (e : Env) (h : CInv c) :
    ∃ c', ctlWrites c e ps = some (c', e) ∧ CInv c' ∧ c'.w.buf.length ≤ 125
      ∧ c'.w.op = c.w.op ∧ c'.w.client = c.w.client := by
  induction ps generalizing c with
  | nil => exact ⟨c, rfl, h, h.buf_le, rfl, rfl⟩
  | cons p ps ih =>
    obtain ⟨h1, h2⟩ := ctl_write_spec c e p h
    by_cases hgt : c.n + p.length > c.limit
    · simp only [ctlWrites, h1 hgt]
      exact ih c h
    · obtain ⟨c1, g1, g2, _, _, g5, g6, _, _⟩ := h2 (by omega)
      simp only [ctlWrites, g1]
      obtain ⟨c', k1, k2, k3, k4, k5⟩ := ih c1 g2
      exact ⟨c', k1, k2, k3, by rw [k4, g5], by rw [k5, g6]⟩

/-- Flush of a ControlWriter sends exactly one frame: final, the control opcode, at most 125
    payload bytes (everything accepted), masked with the drawn key iff client. -/
theorem ctl_flush_spec (c : CtlWr) (e : Env) (h : CInv c) (he : EnvOk e) (hop : c.w.op < 16)
    (hbuf : Bytes.WF c.w.buf) (hd : c.w.dirty = true ∨ c.w.buf ≠ []) :
    ∃ c' e', c.flush e = some (none, c', e') ∧ EnvOk e'
      ∧ e'.dst.writes = e.dst.writes ++
          [rfcEncode (wireHeader c.w.client (flushTemplate c.w true) e.popMask.1)
            ++ wirePayload c.w.client c.w.buf e.popMask.1]
      ∧ (flushTemplate c.w true).fin = true ∧ (flushTemplate c.w true).op = c.w.op
      ∧ (flushTemplate c.w true).len ≤ 125 := by
  obtain ⟨w', e', h1, _, h3, _, h5, _⟩ :=
    C06.flush_spec c.w e h.inv he hop hbuf (Nat.lt_of_le_of_lt h.buf_le (by decide)) h.no_err hd
  unfold CtlWr.flush
  simp only [h1]
  refine ⟨_, _, rfl, h3, h5, rfl, ?_, h.buf_le⟩
  simp [flushTemplate, Wr.opCode, h.first]

theorem CInv.template {c : CtlWr} (h : CInv c) (hx : c.w.ext = none) :
    flushTemplate c.w true = ⟨true, 0, c.w.op, false, Mask.zero, c.w.buf.length⟩ := by
  simp [flushTemplate, Wr.opCode, h.first, hx, extRsv]

/-- `len + headerSize(len)` bytes is what HandlePing / HandleClose allocate for their ControlWriter. -/
theorem newCtl_inv (client : Bool) (op len : Nat) (hlen : len ≤ 125) (hpos : 0 < len) :
    ∃ c, newControlWriterBuffer client op (len + wHeaderSize client len) = some c ∧ CInv c
      ∧ c.limit = len ∧ c.w.op = op ∧ c.w.client = client ∧ c.w.buf = [] ∧ c.w.ext = none ∧ c.n = 0 := by
  -- the header of a frame this short takes `k` = 2 bytes and the key's 4 when there is one: what `reserve` sets
  -- aside in a buffer of `len + k` bytes, so that `len` are left for the payload
  generalize hk : 2 + (if client then 4 else 0) = k
  have hh : ∀ n ≤ 125, wHeaderSize client n = k := fun n hn => by rw [wHeaderSize, if_pos (by omega), hk]
  have hres : reserve client (len + k) = k := by
    simp only [reserve]; rw [if_pos (by omega)]; omega
  have hw := newWriterBuffer_eq_some (op := op) |>.2 ⟨by rw [hres]; omega, rfl⟩
  have hsz : (len + k) - reserve client (len + k) = len := by rw [hres]; omega
  simp only [newControlWriterBuffer, maxControlFramePayloadSize, hh len hlen, hh 125 (Nat.le_refl _),
    if_neg (show ¬ len + k > 125 + k by omega), hw, Option.map_some]
  exact ⟨_, rfl, ⟨inv_new hw, rfl, Nat.zero_le _, by simp only [Wr.size, hsz]; exact hlen, Nat.le_refl _,
    rfl, rfl, rfl⟩, hsz, rfl, rfl, rfl, rfl, rfl⟩

theorem copyInto_all (chunks : List Bytes) (c : CtlWr) (e : Env) (h : CInv c)
    (hfit : c.n + chunks.flatten.length ≤ c.limit) :
    ∃ c', copyInto c e chunks = some (none, c', e) ∧ CInv c' ∧ c'.w.buf = c.w.buf ++ chunks.flatten
      ∧ c'.limit = c.limit ∧ c'.w.op = c.w.op ∧ c'.w.client = c.w.client ∧ c'.w.ext = c.w.ext
      ∧ ((c.w.dirty = true ∨ chunks.flatten ≠ []) → c'.w.dirty = true) := by
  induction chunks generalizing c with
  | nil => exact ⟨c, rfl, h, by simp, rfl, rfl, rfl, rfl, by simp⟩
  | cons ch rest ih =>
    simp only [List.flatten_cons, List.length_append] at hfit
    by_cases hemp : ch.isEmpty = true
    · have : ch = [] := List.isEmpty_iff.mp hemp
      subst this
      simp only [copyInto, List.isEmpty_nil, if_true, List.flatten_cons, List.nil_append]
      exact ih c h (by simpa using hfit)
    · obtain ⟨c1, g1, g2, g3, g4, g5, g6, g7, g8⟩ := (ctl_write_spec c e ch h).2 (by omega)
      have hn1 : c1.n = c.n + ch.length := by
        have a := g2.count; have b := h.count; rw [g3, List.length_append] at a; omega
      obtain ⟨c', k1, k2, k3, k4, k5, k6, k7, k8⟩ := ih c1 g2 (by rw [hn1, g4]; omega)
      simp only [copyInto, hemp, Bool.false_eq_true, if_false, g1]
      refine ⟨c', k1, k2, ?_, by rw [k4, g4], by rw [k5, g5], by rw [k6, g6], by rw [k7, g7], ?_⟩
      · rw [k3, g3, List.flatten_cons, List.append_assoc]
      · intro _; exact k8 (Or.inl g8)

/-- A ping of 1..125 bytes, whose payload the handler can read in full (in any chunking; here and in the three close
    theorems below the source hands out unmasked bytes: DisableSrcCiphering, the fourth argument `false`), is
    answered with exactly one frame: final, opcode pong, the identical payload, masked with the
    drawn key iff the handler is on the client side; the handler reports no error. -/
theorem ping_reply_ok (client : Bool) (h : Header) (src : CtlSrc) (e : Env) (he : EnvOk e)
    (hlen : 0 < h.len ∧ h.len ≤ 125) (hsrc : src.bytes.length = h.len) (hwf : Bytes.WF src.bytes)
    (hfin : src.fin = .eof) (hue : src.ueofEnd = false) :
    ∃ e', handlePing client h src false e = some (none, e') ∧ EnvOk e'
      ∧ e'.dst.writes = e.dst.writes ++
          [rfcEncode (wireHeader client ⟨true, 0, opPong, false, Mask.zero, h.len⟩ e.popMask.1)
            ++ wirePayload client src.bytes e.popMask.1] := by
  obtain ⟨c, hc1, hc2, hc3, hc4, hc5, hc6, hc7, hc8⟩ := newCtl_inv client opPong h.len hlen.2 hlen.1
  have hne : h.len ≠ 0 := by omega
  unfold handlePing
  simp only [hne, if_false, hc1, Bool.false_eq_true]
  -- the chunks handed to the writer: either as read, or everything at once (WriterTo sources)
  have key : ∀ chunks : List Bytes, chunks.flatten = src.bytes →
      ∃ c', copyInto c e chunks = some (none, c', e) ∧ CInv c' ∧ c'.w.buf = src.bytes
        ∧ c'.w.op = opPong ∧ c'.w.client = client ∧ c'.w.ext = none ∧ c'.w.dirty = true := by
    intro chunks hfl
    obtain ⟨c', k1, k2, k3, _, k5, k6, k7, k8⟩ := copyInto_all chunks c e hc2 (by rw [hc8, hfl, hsrc, hc3]; omega)
    refine ⟨c', k1, k2, by rw [k3, hc6, hfl]; simp, by rw [k5, hc4], by rw [k6, hc5], by rw [k7, hc7], ?_⟩
    exact k8 (.inr (hfl ▸ List.ne_nil_of_length_pos (by omega)))
  have hend : src.endErr = none := by simp [CtlSrc.endErr, hfin, hue]
  obtain ⟨c', k1, k2, k3, k4, k5, k6, k7⟩ :=
    key (if src.writerTo then [src.chunks.flatten] else src.chunks) (by split <;> simp [CtlSrc.bytes])
  simp only [k1, hend]
  obtain ⟨c'', e', f1, f2, f3, _, _, _⟩ := ctl_flush_spec c' e k2 he (by rw [k4]; decide) (by rw [k3]; exact hwf) (Or.inl k7)
  simp only [f1, Option.map_none]
  refine ⟨e', rfl, f2, ?_⟩
  rw [f3, k2.template k6, k5, k4, k3, hsrc]

/-- Every automatic reply header passes the peer's own header check (whether or not the peer is
    in the middle of a fragmented message): final, control opcode, at most 125 bytes, no reserved
    bits, masked exactly when we are the client. -/
theorem reply_header_ok (client : Bool) (op len : Nat) (m : Mask) (hop : op = opPong ∨ op = opClose)
    (hlen : len ≤ 125) (frag : Bool) :
    checkHeader (wireHeader client ⟨true, 0, op, false, Mask.zero, len⟩ m)
      ((if client then stServer else stClient) ||| (if frag then stFragmented else 0)) = none := by
  have hl : decide (len > 125) = false := by simp; omega
  rcases hop with h | h <;> subst h <;> cases client <;> cases frag <;>
    simp [checkHeader, wireHeader, hl, opIsReserved, opIsControl, opPong, opClose, stIs, stServer, stClient,
      stFragmented, stExtended, opContinuation]

/-- A close frame without payload is answered with an empty close frame and reported as 1005. -/
theorem close_empty_ok (client : Bool) (h : Header) (src : CtlSrc) (e : Env) (he : EnvOk e) (hl : h.len = 0)
    (errText : ProtoErr → Bytes) :
    ∃ e', handleClose client h src false e errText = some (some (.closed 1005 []), e')
      ∧ e'.dst.writes = e.dst.writes ++ [frameHeaderOnly client opClose] ∧ e'.masks = e.masks := by
  unfold handleClose
  simp only [hl, if_true, dst_write_ok _ _ he.no_fail]
  exact ⟨_, rfl, rfl, rfl⟩

/-- A close frame with an acceptable code and a valid UTF-8 reason is echoed: one final close frame
    carrying exactly the 2-byte status code, and the peer's code and reason are reported. -/
theorem close_valid_ok (client : Bool) (h : Header) (src : CtlSrc) (e : Env) (he : EnvOk e)
    (errText : ProtoErr → Bytes) (hlen : 2 ≤ h.len ∧ h.len ≤ 125) (hsrc : src.bytes.length = h.len)
    (hwf : Bytes.WF src.bytes)
    (hok : checkCloseFrameData (parseCloseFrameData src.bytes).1 (parseCloseFrameData src.bytes).2 = none) :
    ∃ e', handleClose client h src false e errText
        = some (some (.closed (parseCloseFrameData src.bytes).1 (parseCloseFrameData src.bytes).2), e')
      ∧ EnvOk e'
      ∧ e'.dst.writes = e.dst.writes ++
          [rfcEncode (wireHeader client ⟨true, 0, opClose, false, Mask.zero, 2⟩ e.popMask.1)
            ++ wirePayload client (src.bytes.take 2) e.popMask.1] := by
  obtain ⟨c, hc1, hc2, hc3, hc4, hc5, hc6, hc7, hc8⟩ := newCtl_inv client opClose h.len hlen.2 (by omega)
  have hne : h.len ≠ 0 := by omega
  have hnlt : ¬ src.bytes.length < h.len := by omega
  have htake : src.bytes.take h.len = src.bytes := List.take_of_length_le (by omega)
  unfold handleClose
  simp only [hne, if_false, hnlt, Bool.false_eq_true, htake, hok, hc1]
  have hp2 : (src.bytes.take 2).length = 2 := by rw [List.length_take]; omega
  obtain ⟨c1, g1, g2, g3, _, g5, g6, g7, g8⟩ := (ctl_write_spec c e (src.bytes.take 2) hc2).2 (by rw [hc8, hp2, hc3]; omega)
  simp only [g1]
  have hbuf : c1.w.buf = src.bytes.take 2 := by rw [g3, hc6]; simp
  obtain ⟨c'', e', f1, f2, f3, _, _, _⟩ := ctl_flush_spec c1 e g2 he (by rw [g5, hc4]; decide)
    (by rw [hbuf]; exact hwf.take 2) (Or.inl g8)
  simp only [f1]
  refine ⟨e', rfl, f2, ?_⟩
  rw [f3, g2.template (g7.trans hc7), g6, hc5, g5, hc4, hbuf, hp2]

/-- The texts of the protocol errors are ASCII, hence acceptable close reasons for status 1002. -/
theorem errText_ok (pe : ProtoErr) : checkCloseFrameData 1002 (pe.textBytes.take 123) = none
    ∧ Bytes.WF pe.textBytes := by
  have ha : ∀ b ∈ pe.textBytes, b ≤ 0x7F := by
    cases pe <;> rw [ProtoErr.textBytes, ProtoErr.goText, strBytes_ofList] <;> decide +kernel
  exact ⟨(checkClose_none_iff _ _).mpr ⟨by omega, wfUtf8_ascii fun b hb => ha b (List.mem_of_mem_take hb)⟩,
    fun b hb => Nat.lt_of_le_of_lt (ha b hb) (by omega)⟩

/-- A close frame with an unacceptable code or an invalid UTF-8 reason is answered with one final
    close frame carrying status 1002 (masked with the drawn key iff client) whose payload the peer's
    close-payload check accepts, and the protocol error is reported to the caller. -/
theorem close_invalid_ok (client : Bool) (h : Header) (src : CtlSrc) (e : Env) (he : EnvOk e)
    (hlen : 0 < h.len) (hsrc : src.bytes.length = h.len) (pe : ProtoErr)
    (hbad : checkCloseFrameData (parseCloseFrameData src.bytes).1 (parseCloseFrameData src.bytes).2 = some pe) :
    ∃ e' body, handleClose client h src false e ProtoErr.textBytes = some (some (.proto pe), e')
      ∧ newCloseFrameBody 1002 pe.textBytes = some body ∧ body.length ≤ 125
      ∧ parseCloseFrameData body = (1002, pe.textBytes.take 123)
      ∧ checkCloseFrameData 1002 (pe.textBytes.take 123) = none
      ∧ e'.dst.writes = e.dst.writes ++
          [rfcEncode (wireHeader client ⟨true, 0, opClose, false, Mask.zero, body.length⟩ e.popMask.1),
           wirePayload client body e.popMask.1] := by
  obtain ⟨body, hb1, hb2, hb3⟩ := C03.body_roundtrip 1002 (by omega) pe.textBytes
  obtain ⟨ht1, ht2⟩ := errText_ok pe
  have hne : h.len ≠ 0 := by omega
  have hnlt : ¬ src.bytes.length < h.len := by omega
  have htake : src.bytes.take h.len = src.bytes := List.take_of_length_le (by omega)
  have hbwf : Bytes.WF body := by
    cases hb1.symm.trans (C03.newCloseFrameBody_eq 1002 pe.textBytes)
    exact Bytes.wf_append.mpr ⟨by decide, ht2.take 123⟩
  have htw : (⟨true, 0, opClose, false, Mask.zero, body.length⟩ : Header).WF := by
    refine ⟨?_, ?_, ?_, Mask.zero_wf, fun _ => rfl⟩
    · show 0 < 8; omega
    · show opClose < 16; decide
    · show body.length < 2 ^ 63; omega
  obtain ⟨e1, hs, _, he1, hd1, _⟩ := sealFrame_spec client _ body e he htw rfl hbwf
  unfold handleClose
  simp only [hne, if_false, hnlt, Bool.false_eq_true, htake, hbad]
  unfold closeWithProtocolError
  simp only [hb1, hs, dst_write_ok, he1.no_fail, Bool.not_true, Bool.false_eq_true, if_false]
  exact ⟨_, body, rfl, rfl, hb2, hb3, ht1, by simp [hd1]⟩

end Ws.C08
