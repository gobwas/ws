/-
  C06 — every `Reset(dest, state, op)` starts a clean frame stream: whatever the writer went through
  before (an unfinished message, DisableFlush, an extension, a failed destination), the writer it
  leaves satisfies the preconditions of the history theorems, so everything written from then on is
  again whole messages of the new opcode and side on the new destination, byte for byte the RFC
  encodings of `history_ok`'s frames.
-/
import WsVerif.Props.C06
import WsVerif.Props.C18
namespace Ws.C06
open Ws Ws.Spec

theorem reset_good (w w' : Wr) (client : Bool) (op : Nat) (hop : op < 16) (hraw : w.rawLen < 2 ^ 63)
    (h : w.reset client op = some w') :
    Good w' ∧ w'.fseq = 0 ∧ w'.buf = [] ∧ w'.client = client ∧ w'.op = op ∧ w'.ext = none ∧ w'.rawLen = w.rawLen := by
  rw [C18.writer_reset_fresh] at h
  have hinv := inv_new h
  obtain ⟨_, rfl⟩ := newWriterBuffer_eq_some.1 h
  exact ⟨⟨hinv, hop, Bytes.WF.nil, rfl, rfl, hraw⟩, rfl, rfl, rfl, rfl, rfl, rfl⟩

/-- `wire_history_ok` for the writer a Reset leaves, whatever the writer was before: side `client`,
    opcode `op`, no extension. -/
theorem session_after_reset (w w' : Wr) (client : Bool) (op : Nat) (hop : op < 16) (hraw : w.rawLen < 2 ^ 63)
    (h : w.reset client op = some w') (e : Env) (he : EnvOk e) (ops : List WOp) (hops : ∀ o ∈ ops, OpOK w.rawLen o) :
    ∃ e', runC w' e ops = some ((runA w' ops).1, e')
      ∧ e'.dst.writes.flatten = e.dst.writes.flatten ++ encFrames client (runA w' ops).2.1 e
      ∧ Trace op none (runA w' ops).2.1 (runA w' ops).1
      ∧ (runA w' ops).2.1.flatMap (·.plain) ++ (runA w' ops).1.buf = (runA w' ops).2.2 := by
  obtain ⟨hg, hf, hb, hcl, hop', hext, hrl⟩ := reset_good w w' client op hop hraw h
  have := wire_history_ok w' e ops hg he hf hb (by rw [hrl]; exact hops)
  rw [hcl, hop', hext] at this
  exact this

end Ws.C06
