/-
  C07 — a text message that ends inside a character is reported as ErrInvalidUTF8 whatever the transport says along
  with its last bytes (defect F20 of DESIGN §0.4, repaired in /repo).
-/
import WsVerif.Model.Helper
import WsVerif.Proofs.ReaderText
namespace Ws.C07
open Ws Ws.RdText

/-- C07: the verdict at the end of a text message does not depend on what the transport says along with the last bytes.
    Whenever a Read leaves the reader at the end of the final frame of a message (nothing left of the frame, no
    fragment to follow) with checking on and the text not ending on a character boundary, the error that Read returned
    is ErrInvalidUTF8 — in particular never nil, never io.EOF, and not the transport's own failure (which helpers like
    io.ReadFull drop once their buffer is full: the defect F20 repaired in /repo). -/
theorem end_of_invalid_text_is_reported (r : Rd) (s : Src) (cx : Ctx) (k : Nat) (cb : Option Callback)
    (hhas : r.hasFrame = true)
    (bytes : Bytes) (n : Nat) (e : Option RErr) (r' : Rd) (s' : Src) (cx' : Ctx)
    (h : r.read s cx k cb = some (bytes, n, e, r', s', cx'))
    (hraw : r'.rawN = 0) (hfin : r'.fragmented = false) (hchk : r'.checkUTF8 = true) (hinv : r'.utf8.valid = false) :
    e = some .utf8 := by
  have hbad : badEnd r' = true := by simp [badEnd, hraw, hfin, hchk, hinv]
  rw [read_has_cb r s cx k cb hhas, tail_eq] at h
  rcases hfr : r.frameRead s k with _ | ⟨p, n0, e0, r2, s2⟩
  · rw [hfr] at h; cases h
  rw [hfr] at h
  dsimp only at h
  by_cases hbe : (badEnd r2 && e0 != some .utf8) = true
  · rw [if_pos hbe] at h
    simp only [Option.some.injEq, Prod.mk.injEq] at h
    exact h.2.2.1.symm
  · rw [if_neg hbe] at h
    simp only [Option.some.injEq, Prod.mk.injEq] at h
    obtain ⟨_, _, rfl, rfl, _⟩ := h
    -- the reader stands at a bad end, so `finish` left reader and error as they were: the error was ErrInvalidUTF8 itself
    obtain ⟨h1, h2⟩ := finish_badEnd r2 e0 hbad
    rw [h1] at hbad
    rw [h2]
    simpa [hbad] using hbe

/-- The witness of F20: a client-side ReadMessage, an unmasked final text frame whose one payload byte 0xC3 opens a
    two-byte character, the transport handing that byte over together with a failure. Before the repair in /repo the
    result was ([(1, [0xc3])], nil): io.ReadFull had its one byte and dropped the transport's error, and nothing had
    looked at the validator's state. -/
example : (readMessage 2 { chunks := [[0x81, 0x01, 0xc3]], fin := .fail, dataWithFin := true }).2.1 = some .utf8 := by decide
example : (readMessage 2 { chunks := [[0x81, 0x02, 0xc3, 0xa9]], fin := .fail, dataWithFin := true }).1 = [(1, [0xc3, 0xa9])] := by decide

end Ws.C07
