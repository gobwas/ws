/-
  C17 — Returned data and caller buffers are never aliased to pooled or internal memory.

  Aliasing lives below the value level of the other models, so it gets its own small model: a
  heap of library buffers, values that are either owned bytes or views into a buffer, and the two
  kinds of conversion the source uses (copying: string(b), Parameters.Copy, SelectCopy, make+copy;
  viewing: btsToString, strToBytes, sub-slicing). The theorems say what each kind guarantees; the
  obligation tied to the source (Bridge.C17, regenerated on every run) is that no value that
  leaves through a result of the library-owned selection paths, the close handler or the copying
  write/mask helpers is built by a viewing conversion.
-/
import WsVerif.Base
namespace Ws.C17
open Ws

/-- Library buffers by id (pooled bufio buffers, pbytes slices): contents change on reuse. -/
abbrev Heap := Nat → Bytes

inductive Val where
  | owned (b : Bytes)                  -- its own allocation
  | view (buf off len : Nat)           -- a window into library buffer `buf`
  deriving DecidableEq, Repr

def deref (h : Heap) : Val → Bytes
  | .owned b => b
  | .view i off len => ((h i).drop off).take len

/-- A copying conversion performed while the heap is `h`. -/
def own (h : Heap) (v : Val) : Val := .owned (deref h v)

/-- Sub-slicing / btsToString / strToBytes: still the same memory. -/
def subview (v : Val) (o l : Nat) : Val :=
  match v with
  | .owned b => .owned ((b.drop o).take l)
  | .view i off len => .view i (off + o) (min l (len - o))

/-- A copied value reads the same whatever later happens to every library buffer. -/
theorem own_stable (h h' : Heap) (v : Val) : deref h' (own h v) = deref h v := rfl

/-- A copied value is the value that was there when it was copied. -/
theorem own_value (h : Heap) (v : Val) : deref h (own h v) = deref h v := rfl

/-- A view is not stable: recycling its buffer changes what the caller reads. -/
theorem view_unstable : ∃ (h h' : Heap) (v : Val), deref h' v ≠ deref h v :=
  ⟨fun _ => [1, 2, 3], fun _ => [9, 9, 9], .view 0 0 3, by decide⟩

/-- A handshake result all of whose parts are owned is unaffected by any later heap. -/
theorem owned_list_stable (h h' : Heap) (vs : List Val) :
    (vs.map (own h)).map (deref h') = vs.map (deref h) := by
  induction vs with
  | nil => rfl
  | cons v r ih => simp [own_stable, ih]

/-- Stands for ws.Cipher: it writes to every byte of its argument. -/
def xorAll (k : Nat) (p : Bytes) : Bytes := p.map (· ^^^ k)

/-- Write side: masking a copy leaves the caller's bytes as they were. -/
theorem copy_then_mask_leaves_caller (p : Bytes) (k : Nat) :
    let copy := p            -- copy(payload, p): a separate allocation with the same contents
    (xorAll k copy, p).2 = p := rfl

-- With these `Bridge.C17.no_view_in_results` classifies the lines of the regenerated ownership facts.

def hasInfix : List Char → List Char → Bool
  | [], pat => pat.isEmpty
  | c :: cs, pat => pat.isPrefixOf (c :: cs) || hasInfix cs pat

def mentions (s pat : String) : Bool := hasInfix s.toList pat.toList

/-- A fact line that lets a value out: a return statement or an assignment to a result variable
    / result field. -/
def isResultSite (s : String) : Bool :=
  mentions s ": return " || mentions s ": assign ret " || mentions s ": assign want.Parameters" || mentions s "Reason:"

/-- A fact line whose value is built by a viewing conversion. -/
def usesView (s : String) : Bool := mentions s "btsToString" || mentions s "strToBytes" || mentions s "Unsafe("

end Ws.C17
