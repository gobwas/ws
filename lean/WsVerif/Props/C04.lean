/-
  C04 — Message reader reassembles every valid frame stream exactly under any chunking.

  One read of the frame stack (`rawRead_flat`, `frameRead_plain`), and whole messages: `message_reads_g` for any
  OnIntermediate handler that meets `Handles` (Proofs/ReaderFrame), with `message_delivered` its instance for the
  handler unset (interleaved control frames are skipped).
  Covered in Lean: reader without receive extension, CheckUTF8 off, a transport that does not deliver its last bytes
  together with a failure (`Src.Tame`). The rest of the property is carried by the stream oracle and the
  correspondence (DESIGN.md §0.3).
-/
import WsVerif.Proofs.Reader
import WsVerif.Proofs.Check
namespace Ws.C04
open Ws Ws.Spec

/-- One read of the per-frame limited reader, on the flat byte string: it hands out a prefix of what is left of the
    frame (at most k bytes, never past the frame's end), removes exactly those bytes from the transport, and says
    io.EOF only when nothing of the frame is left. -/
theorem rawRead_flat (r : Rd) (s : Src) (k : Nat) :
    let res := r.rawRead s k
    res.1 ++ res.2.2.2.bytes = s.bytes
    ∧ res.1.length ≤ min k r.rawN
    ∧ res.2.2.1.rawN = r.rawN - res.1.length
    ∧ (res.2.1 = some .eof → res.2.2.1.rawN = 0) := by
  by_cases h0 : r.rawN = 0
  · rw [FR.rawRead_zero h0]; simp [h0]
  · rw [FR.rawRead_pos h0]
    exact ⟨(s.read_conserve _).symm, RdProof.src_read_len s _, rfl, FR.limErr_eof⟩

/-- The bytes a frame read delivers are the §5.3 unmasking of the raw bytes it took from the
    transport, at the running offset inside the frame — whatever the chunking. -/
theorem frameRead_plain (r : Rd) (s : Src) (k : Nat) (hs : Bytes.WF s.bytes) (hm : r.mask.WF)
    (hu : r.utf8on = false) :
    ∃ bytes n e r' s', r.frameRead s k = some (bytes, n, e, r', s')
      ∧ n = bytes.length
      ∧ bytes = (if r.masked then xorSpec (r.rawRead s k).1 r.mask r.cpos else (r.rawRead s k).1)
      ∧ r'.cpos = (if r.masked then r.cpos + bytes.length else r.cpos)
      ∧ s'.bytes = (r.rawRead s k).2.2.2.bytes ∧ r'.rawN = (r.rawRead s k).2.2.1.rawN := by
  have hgot : Bytes.WF (r.rawRead s k).1 := (Bytes.wf_append.mp ((rawRead_flat r s k).1 ▸ hs)).1
  rw [FR.frameRead_off r s k hu, RdProof.unmask_wf r _ hgot hm]
  refine ⟨_, _, _, _, _, rfl, rfl, rfl, ?_, rfl, by rw [FR.rawRead_rd]; rfl⟩
  simp [RdProof.adv, RdProof.plainOf_length]

open Ws.RdProof

/-- MaxFrameSize refuses only what exceeds it: a data frame announcing exactly MaxFrameSize bytes (first frame or
    continuation) that passes the header check is installed like any other. -/
theorem frame_at_limit_accepted (r : Rd) (s s1 : Src) (cx : Ctx) (cb : Option Callback) (h : Header)
    (hh : readHeaderUtil s = (.ok h, s1))
    (hc : (if r.skipCheck then none else checkHeader h r.state) = none)
    (hlen : h.len = r.maxFrame) (hext : r.ext = false) (hdata : opIsControl h.op = false) :
    r.nextFrame s cx cb = (some h, none, enter r h, s1, cx) :=
  nextFrame_data r s s1 cx cb h hh ⟨hc, by omega⟩ hext hdata

/-- the frames of one data message as the peer sends them: a first data frame `f0`; if it is not
    final, the rest `fs` (fragments and interleaved control frames, the final fragment last) -/
structure Message (r0 : Rd) (f0 : WFrame) (fs : List WFrame) : Prop where
  ok0 : f0.OK
  data0 : opIsControl f0.h.op = false
  acc0 : AcceptsAt r0.skipCheck r0.state r0.maxFrame f0.h
  rest : if f0.h.fin then fs = [] else Tail false r0.skipCheck (stSet r0.state stFragmented) r0.maxFrame fs

theorem Message.allOK {r0 : Rd} {f0 : WFrame} {fs : List WFrame} (hm : Message r0 f0 fs) : ∀ f ∈ f0 :: fs, f.OK := by
  refine List.forall_mem_cons.mpr ⟨hm.ok0, ?_⟩
  have := hm.rest
  split at this
  · subst this; exact fun _ h => by cases h
  · exact this.allOK

theorem Message.dataPlain_wf {r0 : Rd} {f0 : WFrame} {fs : List WFrame} (hm : Message r0 f0 fs) :
    Bytes.WF (dataPlain (f0 :: fs)) := RdProof.dataPlain_wf _ hm.allOK

/-- Entering a message whose first frame `f0` is followed by the known frames `fs`, closed by them or left open (`ao`):
    NextFrame installs `f0` and `Sync` holds with all of the known part still to deliver. Every stream theorem starts here. -/
theorem enter_sync (ao : Bool) (r0 : Rd) (s : Src) (cx : Ctx) (cb : Option Callback) (f0 : WFrame) (fs : List WFrame) (rest : Bytes)
    (hnf : r0.fragmented = false) (hst : r0.state < 256) (hext : r0.ext = false) (hu8 : r0.checkUTF8 = false)
    (hok0 : f0.OK) (hdata0 : opIsControl f0.h.op = false) (hacc0 : AcceptsAt r0.skipCheck r0.state r0.maxFrame f0.h)
    (hrest : if f0.h.fin then fs = [] else Tail ao r0.skipCheck (stSet r0.state stFragmented) r0.maxFrame fs)
    (hb : s.bytes = encodeFs (f0 :: fs) ++ rest) (hwf : Bytes.WF s.bytes) (htame : Src.Tame s) :
    ∃ s1, r0.nextFrame s cx cb = (some f0.h, none, enter r0 f0.h, s1, cx)
      ∧ Sync ao r0.skipCheck (stSet r0.state stFragmented) r0.maxFrame rest (enter r0 f0.h) s1 (dataPlain (f0 :: fs)) fs
      ∧ mu s1 < mu s
      ∧ stClear (stSet r0.state stFragmented) stFragmented = r0.state := by
  obtain ⟨b1, b2, b3, b4⟩ := stbits r0.state hst
  obtain ⟨b4, hclr⟩ := b4 (by simpa [Rd.fragmented] using hnf)
  obtain ⟨s1, hnext, hin, hmu1, _⟩ := nextFrame_data_at r0 s cx cb f0 (encodeFs fs ++ rest) hext hu8 (by rw [hb, encodeFs_cons])
    hwf htame hok0 hdata0 hacc0
  have hc : Common r0.skipCheck (stSet r0.state stFragmented) r0.maxFrame (enter r0 f0.h) s1 :=
    ⟨hext, hu8, rfl, rfl, hin.tame, hin.wf, b1, b2, b3⟩
  have hpl : dataPlain (f0 :: fs) = plainOf (enter r0 f0.h) f0.wire ++ dataPlain fs := by
    rw [WFrame.plain_enter]; simp only [dataPlain, hdata0, Bool.false_eq_true, if_false]
  refine ⟨s1, hnext, hpl ▸ Sync.inFrame f0.h.fin hc hin ?_ hrest, hmu1, b4⟩
  cases hfin : f0.h.fin <;> simp [enter, hfin, b4, hclr]

/-- Any sequence of Reads over a whole message, for any handler that copes with its interleaved control frames: what
    is handed out is a prefix of the message's data; the only error is the io.EOF that ends it, reached after at most
    (bytes + chunks + 1) Reads, with the transport behind the message and the reader as good as new; the handler has
    run over the control frames `pre` gone by. -/
theorem message_reads_g {cb : Option Callback} {S : CtlSpec} (hcb : Handles cb S)
    (r0 : Rd) (s : Src) (cx : Ctx) (f0 : WFrame) (fs : List WFrame) (rest : Bytes) (ks : List Nat) (hpos : ∀ k ∈ ks, 0 < k)
    (hnf : r0.fragmented = false) (hst : r0.state < 256) (hext : r0.ext = false) (hu8 : r0.checkUTF8 = false)
    (hm : Message r0 f0 fs) (hi : S.inv cx) (hg : ∀ f ∈ fs, opIsControl f.h.op = true → S.good f)
    (hb : s.bytes = encodeFs (f0 :: fs) ++ rest) (hwf : Bytes.WF s.bytes) (htame : Src.Tame s) :
    ∃ s1 out e r' s' cx' pre fs',
      r0.nextFrame s cx cb = (some f0.h, none, enter r0 f0.h, s1, cx)
      ∧ RdCb.readsCb cb (enter r0 f0.h) s1 cx ks = some (out, e, r', s', cx')
      ∧ fs = pre ++ fs' ∧ Run S.eff pre cx cx' ∧ S.inv cx'
      ∧ (∃ more, dataPlain (f0 :: fs) = out ++ more)
      ∧ (e = none ∨ e = some .eof)
      ∧ (e = some .eof → out = dataPlain (f0 :: fs) ∧ s'.bytes = rest ∧ Done (stSet r0.state stFragmented) r0 r'
                          ∧ r'.state = r0.state ∧ fs' = [])
      ∧ (mu s < ks.length → e = some .eof) := by
  obtain ⟨s1, hnext, hsync, hmu1, hb4⟩ := enter_sync false r0 s cx cb f0 fs rest hnf hst hext hu8 hm.ok0 hm.data0 hm.acc0 hm.rest
    hb hwf htame
  rcases reads_g hcb hpos cx hsync hi hg with
    ⟨out, e, r', s', cx', pre, fs', hrd, hi', hfs, hrun, hcase⟩ | ⟨_, _, _, _, _, _, _, _, _, _, hend, _⟩
  · refine ⟨s1, out, e, r', s', cx', pre, fs', hnext, hrd, hfs, hrun, hi', ?_⟩
    rcases hcase with ⟨rfl, rem', h1, _, hw⟩ | ⟨rfl, h1, h2, _, h4, h5⟩
    · refine ⟨⟨rem', h1⟩, Or.inl rfl, (fun he => by cases he), fun hlen => ?_⟩
      -- each Read took at least one unit off the transport's measure
      have : weight (enter r0 f0.h) s1 = mu s1 + 1 := by simp [weight, enter]
      omega
    · exact ⟨⟨[], by rw [h1]; simp⟩, Or.inr rfl, fun _ => ⟨h1.symm, h2,
        ⟨h4.has, h4.state, h4.op, h4.u8, h4.raw, h4.u8on, by simpa [enter] using h4.cfg⟩, by rw [h4.state]; exact hb4, h5⟩, fun _ => rfl⟩
  · -- the message is closed: the Reads cannot run off the end of its known frames
    exact absurd hend.opn (by decide)

/-- C04, message level. For every data message (any number of fragments, empty ones included, control frames
    interleaved anywhere, masked or not), every chunking of the transport (empty chunks and data-with-EOF included)
    and every sequence of positive caller buffer sizes: the bytes Reader.Read hands out are a prefix of the
    concatenation of the unmasked fragment payloads, in order; no error other than the final io.EOF is possible; the
    loop reaches that io.EOF after at most (bytes + chunks of the transport + 1) reads; at that point the whole
    message has been delivered, the transport stands exactly behind the message's last frame and the reader is in
    the state of a new reader (`Done`). -/
theorem message_delivered (r0 : Rd) (s : Src) (cx : Ctx) (f0 : WFrame) (fs : List WFrame) (rest : Bytes)
    (ks : List Nat) (hpos : ∀ k ∈ ks, 0 < k)
    (hidle : r0.hasFrame = false) (hnf : r0.fragmented = false) (hst : r0.state < 256)
    (hext : r0.ext = false) (hu8 : r0.checkUTF8 = false)
    (hm : Message r0 f0 fs)
    (hb : s.bytes = encodeFs (f0 :: fs) ++ rest) (hwf : Bytes.WF s.bytes) (htame : Src.Tame s) :
    ∃ r1 s1 out e r' s',
      r0.nextFrame s cx none = (some f0.h, none, r1, s1, cx) ∧ r1.hasFrame = true
      ∧ reads r1 s1 cx ks = some (out, e, r', s', cx)
      ∧ (∃ more, dataPlain (f0 :: fs) = out ++ more)
      ∧ (e = none ∨ e = some .eof)
      ∧ (e = some .eof → out = dataPlain (f0 :: fs) ∧ s'.bytes = rest ∧ Done (stSet r0.state stFragmented) r0 r'
                          ∧ r'.state = r0.state)
      ∧ (mu s < ks.length → e = some .eof) := by
  obtain ⟨s1, out, e, r', s', cx', pre, fs', hnext, hrd, _, hrun, _, h1, h2, h3, h4⟩ := message_reads_g handles_none r0 s cx f0 fs
    rest ks hpos hnf hst hext hu8 hm trivial (fun _ _ _ => trivial) hb hwf htame
  cases run_none hrun
  exact ⟨enter r0 f0.h, s1, out, e, r', s', hnext, rfl, reads_eq _ _ _ _ ▸ hrd, h1, h2,
    fun he => ⟨(h3 he).1, (h3 he).2.1, (h3 he).2.2.1, (h3 he).2.2.2.1⟩, h4⟩

/- A server-side reader and a masked text message in three fragments (the middle one empty) with a masked ping
   between them, followed by the first bytes of the next frame; the transport delivers it in chunks that cut the
   header, the mask and a payload, with an empty chunk and the last data arriving together with io.EOF. -/
def exF0 : WFrame := ⟨⟨false, 0, 1, true, ⟨1, 2, 3, 4⟩, 3⟩, [0x69, 0x67, 0x6f]⟩          -- "hel" masked
def exPing : WFrame := ⟨⟨true, 0, 9, true, ⟨9, 9, 9, 9⟩, 2⟩, [0x79, 0x70]⟩
def exF1 : WFrame := ⟨⟨false, 0, 0, true, ⟨0, 0, 0, 0⟩, 0⟩, []⟩
def exF2 : WFrame := ⟨⟨true, 0, 0, true, ⟨5, 6, 7, 8⟩, 2⟩, [0x69, 0x69]⟩                 -- "lo" masked
def exR0 : Rd := { state := 1 }
def exBytes : Bytes := encodeFs [exF0, exPing, exF1, exF2] ++ [0x81, 0x85]
def exSrc : Src := { chunks := [exBytes.take 1, exBytes.drop 1 |>.take 4, [], exBytes.drop 5 |>.take 3, exBytes.drop 8], fin := .eof, dataWithFin := true }

theorem exTail : Tail false false 9 0 [exPing, exF1, exF2] := by
  refine Tail.ctl _ _ ⟨by decide, by decide, by decide, by decide⟩ (by decide) ⟨by decide, by decide⟩ ?_
  refine Tail.cont _ _ ⟨by decide, by decide, by decide, by decide⟩ (by decide) (by decide) ⟨by decide, by decide⟩ ?_
  exact Tail.last _ ⟨by decide, by decide, by decide, by decide⟩ (by decide) (by decide) ⟨by decide, by decide⟩

example : Message exR0 exF0 [exPing, exF1, exF2] :=
  ⟨⟨by decide, by decide, by decide, by decide⟩, by decide, ⟨by decide, by decide⟩, exTail⟩
example : exSrc.bytes = exBytes ∧ Bytes.WF exSrc.bytes ∧ Src.Tame exSrc := by
  refine ⟨by decide, by decide, fun _ => rfl⟩
example :
    (match exR0.nextFrame exSrc {} none with
     | (_, _, r1, s1, cx) => (reads r1 s1 cx [1, 2, 64, 64, 64, 64, 64, 64, 64]).map fun x => (x.1, x.2.1, x.2.2.2.1.bytes))
      = some ([0x68, 0x65, 0x6c, 0x6c, 0x6f], some .eof, [0x81, 0x85]) := by decide

end Ws.C04
