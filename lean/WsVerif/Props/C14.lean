/-
  C14 — permessage-deflate negotiation answers every offer as RFC 7692 §7.1 requires.

  Stated on the model of wsflate's Extension.Negotiate and Parameters.Parse / Option (Model/Negotiate.lean),
  against the legal answers and well-formed offers of Spec/Negotiate.lean. The server's own parameters are
  assumed valid (`CfgValid`).
-/
import WsVerif.Spec.Negotiate
import WsVerif.Proofs.Digits
namespace Ws.C14
open Ws Ws.Spec

/-- A server configuration the library documents as valid: window bits unset or 8..15. -/
def CfgValid (c : Params) : Prop := (c.smwb = 0 ∨ validBits c.smwb) ∧ (c.cmwb = 0 ∨ validBits c.cmwb)
instance (c : Params) : Decidable (CfgValid c) := by unfold CfgValid validBits; infer_instance

theorem bitsFromASCII_eq_some {v : Bytes} {b : Nat} :
    bitsFromASCII v = some b ↔ v ≠ [] ∧ digitsVal v = some b ∧ validBits b := by
  unfold bitsFromASCII validBits
  split
  · simp_all
  · cases digitsVal v with
    | none => simp
    | some n =>
      simp only [Option.ite_none_right_eq_some, Option.some.injEq]
      constructor
      · rintro ⟨hr, rfl⟩; exact ⟨by simp_all, rfl, hr⟩
      · rintro ⟨_, rfl, hr⟩; exact ⟨hr, rfl⟩

/-- bitsFromASCII only ever yields 8..15. -/
theorem bits_range (v : Bytes) (b : Nat) (h : bitsFromASCII v = some b) : validBits b :=
  (bitsFromASCII_eq_some.mp h).2.2

theorem negotiate_indep (cfg : Params) (st : NegSt) (o : Opt) (h : st.accepted = false) :
    (negotiate cfg st o).1 = (negotiate cfg {} o).1 := by
  unfold negotiate
  simp only [h]
  split
  · rfl
  · simp only [Bool.false_eq_true, if_false]

theorem accept_inv (cfg : Params) (st st' : NegSt) (o a : Opt)
    (h : negotiate cfg st o = (.accept a, st')) :
    ∃ offer, parseParamsFull o.params = (none, offer) ∧ negDecide cfg offer = true ∧ cfg.option = some a
      ∧ st.accepted = false ∧ st' = { accepted := true, params := offer } ∧ o.name = extName := by
  revert h
  fun_cases negotiate cfg st o <;> intro h
  -- of the five results `negotiate` can build, the fourth alone can be an `accept`
  case case4 => cases ho : cfg.option <;> simp_all
  all_goals cases h

theorem legal_of_negDecide {cfg offer : Params} (hc : CfgValid cfg) (hd : negDecide cfg offer = true) :
    LegalAnswer offer cfg := by
  simp only [negDecide, Bool.and_eq_true, Bool.not_eq_true', Bool.and_eq_false_iff, Bool.or_eq_false_iff,
    decide_eq_false_iff_not] at hd
  obtain ⟨⟨h1, h2⟩, h3⟩ := hd
  unfold CfgValid validBits at hc
  unfold LegalAnswer validBits
  refine ⟨fun hs => ?_, by omega, by omega, by omega⟩
  cases hcs : cfg.snct <;> simp_all

/-- Whenever an offer is accepted, the answer sent (the configuration) is a legal answer to that
    offer per RFC 7692 §7.1, and the negotiator had not accepted anything before. -/
theorem accept_is_legal (cfg : Params) (hc : CfgValid cfg) (st st' : NegSt) (o : Opt) (a : Opt)
    (h : negotiate cfg st o = (.accept a, st')) :
    ∃ offer, parseParams o.params = .ok offer ∧ LegalAnswer offer cfg ∧ cfg.option = some a
      ∧ st.accepted = false ∧ st'.accepted = true ∧ o.name = extName := by
  obtain ⟨offer, hp, hd, ho, hacc, hs, hname⟩ := accept_inv cfg st st' o a h
  exact ⟨offer, by simp [parseParams, hp], legal_of_negDecide hc hd, ho, hacc, by rw [hs], hname⟩

/-- At most one offer is accepted: once accepted, every further offer gets the zero option. -/
theorem at_most_one (cfg : Params) (st : NegSt) (o : Opt) (h : st.accepted = true) :
    negotiate cfg st o = (.none_, st) := by
  rw [negotiate, if_pos h, ite_self]

/-- Run a whole list of offers (Negotiate is called once per option of the header). -/
def negAll (cfg : Params) : NegSt → List Opt → List NegRes
  | _, [] => []
  | st, o :: os => (negotiate cfg st o).1 :: negAll cfg (negotiate cfg st o).2 os

def isAccept : NegRes → Bool
  | .accept _ => true
  | _ => false

theorem accepted_of_isAccept {cfg : Params} {st : NegSt} {o : Opt}
    (h : isAccept (negotiate cfg st o).1 = true) : (negotiate cfg st o).2.accepted = true := by
  cases hr : (negotiate cfg st o).1 with
  | accept a =>
    obtain ⟨_, _, _, _, _, hs, _⟩ := accept_inv cfg st _ o a (Prod.ext hr rfl)
    exact congrArg NegSt.accepted hs
  | _ => rw [hr] at h; cases h

/-- `cfg.option.isSome`: with parameters that Option cannot encode, Negotiate raises the flag and then panics —
    the one call that raises it without accepting. -/
theorem accepted_eq (cfg : Params) (st : NegSt) (o : Opt) (hc : cfg.option.isSome = true) :
    (negotiate cfg st o).2.accepted = (st.accepted || isAccept (negotiate cfg st o).1) := by
  obtain ⟨a, ha⟩ := Option.isSome_iff_exists.mp hc
  fun_cases negotiate cfg st o <;> simp [isAccept, *]

theorem negAll_accepted (cfg : Params) (st : NegSt) (os : List Opt) (h : st.accepted = true) :
    negAll cfg st os = List.replicate os.length .none_ := by
  induction os with
  | nil => rfl
  | cons o os ih => rw [negAll, at_most_one cfg st o h, ih]; rfl

/-- For every list of offers: at most one is accepted. -/
theorem neg_at_most_one (cfg : Params) (os : List Opt) (st : NegSt) :
    ((negAll cfg st os).filter isAccept).length ≤ 1 := by
  induction os generalizing st with
  | nil => exact Nat.zero_le 1
  | cons o os ih =>
    rw [negAll, List.filter_cons]
    split
    · next h => simp [negAll_accepted cfg _ os (accepted_of_isAccept h), isAccept]
    · exact ih _

def acceptable (cfg : Params) (o : Opt) : Bool := isAccept (negotiate cfg {} o).1

/-- The accepted offer is the first acceptable one in the client's order: the i-th call accepts
    exactly when offer i is acceptable and no earlier offer was. -/
theorem first_acceptable (cfg : Params) (hc : cfg.option.isSome = true) (os : List Opt) (st : NegSt)
    (hst : st.accepted = false) (i : Nat) (hi : i < os.length) :
    (((negAll cfg st os)[i]?).map isAccept = some true)
      ↔ (acceptable cfg os[i] = true ∧ ∀ j, (hj : j < i) → acceptable cfg (os[j]'(by omega)) = false) := by
  induction os generalizing st i with
  | nil => simp at hi
  | cons o os ih =>
    have hres : isAccept (negotiate cfg st o).1 = acceptable cfg o := by
      rw [acceptable, negotiate_indep cfg st o hst]
    have hflag := accepted_eq cfg st o hc
    rw [hst, hres, Bool.false_or] at hflag
    cases i with
    | zero => simp [negAll, hres]
    | succ k =>
      rw [Nat.forall_lt_succ_left']
      simp only [negAll, List.getElem?_cons_succ, List.getElem_cons_succ, List.getElem_cons_zero]
      cases ha : acceptable cfg o with
      | true =>
        rw [negAll_accepted cfg _ os (hflag.trans ha)]
        simp [List.getElem?_replicate, isAccept]
      | false => simpa using ih _ (hflag.trans ha) k (by simpa using hi)

/-- After Extension.Reset the negotiator is the freshly constructed one. -/
theorem reset_fresh (st : NegSt) : st.reset = ({} : NegSt) := rfl

/-- After Reset the answer to an offer is the one a new negotiator gives with the parameters the extension has
    at that moment: nothing of an earlier upgrade — its offer, its answer, the parameters it was answered with — survives
    (the owner may have changed `Extension.Parameters` in between). -/
theorem answer_after_reset (old new : Params) (st : NegSt) (o o' : Opt) :
    negotiate new (negotiate old st o).2.reset o' = negotiate new {} o' := by
  rw [reset_fresh]

theorem bits_decimal (v : Bytes) (b : Nat) (h : bitsFromASCII v = some b) : decimal8to15 v = true := by
  obtain ⟨hne, hd, hr⟩ := bitsFromASCII_eq_some.mp h
  rw [digitsVal_eq] at hd
  obtain ⟨h1, h2⟩ := foldl_digitStep v 0 b hd
  simpa [decimal8to15, hne, h2, hr.1, hr.2] using h1

theorem keys_distinct : kCmwb ≠ kSmwb ∧ kCmwb ≠ kCnct ∧ kCmwb ≠ kSnct ∧ kSmwb ≠ kCnct ∧ kSmwb ≠ kSnct ∧ kCnct ≠ kSnct := by
  decide +kernel

def seenKey (s : Seen) (k : Bytes) : Bool :=
  if k = kCmwb then s.cmwb else if k = kSmwb then s.smwb else if k = kCnct then s.cnct else if k = kSnct then s.snct else false

/-- The test of `wellFormedParams` on a pair, word for word (as `knownKey` is its test on a key), so that what
    `parseParamsFull_go_ok` concludes are that definition's conjuncts as they stand. -/
def valueOk : Bytes × Bytes → Bool := fun (k, v) =>
  if k == kSnct || k == kCnct then v.isEmpty
  else if k == kSmwb then decimal8to15 v
  else v.isEmpty || decimal8to15 v

/-- The test of `wellFormedParams` on a key, word for word. -/
def knownKey (k : Bytes) : Bool := k == kSnct || k == kCnct || k == kSmwb || k == kCmwb

theorem ite_mono {c : Prop} [Decidable c] {x x' y y' : Bool} (hx : x = true → x' = true) (hy : y = true → y' = true) :
    (if c then x else y) = true → (if c then x' else y') = true := by
  split <;> assumption

theorem seen_mono {s s' : Seen} (h1 : s.cmwb = true → s'.cmwb = true) (h2 : s.smwb = true → s'.smwb = true)
    (h3 : s.cnct = true → s'.cnct = true) (h4 : s.snct = true → s'.snct = true) (k : Bytes) :
    seenKey s k = true → seenKey s' k = true :=
  ite_mono h1 (ite_mono h2 (ite_mono h3 (ite_mono h4 id)))

theorem ite_err_eq_ok {c : Prop} [Decidable c] {e : PErr} {p q : Params} {x : Option PErr × Params} :
    (if c then (some e, p) else x) = (none, q) ↔ ¬ c ∧ x = (none, q) := by split <;> simp [*]

theorem seenKey_cmwb {s : Seen} {k : Bytes} (e1 : k = kCmwb) : seenKey s k = s.cmwb := by
  rw [seenKey, if_pos e1]
theorem seenKey_smwb {s : Seen} {k : Bytes} (e1 : ¬k = kCmwb) (e2 : k = kSmwb) : seenKey s k = s.smwb := by
  rw [seenKey, if_neg e1, if_pos e2]
theorem seenKey_cnct {s : Seen} {k : Bytes} (e1 : ¬k = kCmwb) (e2 : ¬k = kSmwb) (e3 : k = kCnct) :
    seenKey s k = s.cnct := by
  rw [seenKey, if_neg e1, if_neg e2, if_pos e3]
theorem seenKey_snct {s : Seen} {k : Bytes} (e1 : ¬k = kCmwb) (e2 : ¬k = kSmwb) (e3 : ¬k = kCnct) (e4 : k = kSnct) :
    seenKey s k = s.snct := by
  rw [seenKey, if_neg e1, if_neg e2, if_neg e3, if_pos e4]

theorem parseParamsFull_go_cons {k v : Bytes} {rest : List (Bytes × Bytes)} {p q : Params} {seen : Seen}
    (h : parseParamsFull.go ((k, v) :: rest) p seen = (none, q)) :
    knownKey k = true ∧ valueOk (k, v) = true ∧ seenKey seen k = false ∧
      ∃ p' seen', parseParamsFull.go rest p' seen' = (none, q) ∧ seenKey seen' k = true ∧
        ∀ k', seenKey seen k' = true → seenKey seen' k' = true := by
  unfold parseParamsFull.go at h
  by_cases e1 : k = kCmwb
  · simp only [if_pos e1, ite_err_eq_ok] at h
    obtain ⟨hs, h⟩ := h
    have : valueOk (k, v) = true ∧ ∃ p', parseParamsFull.go rest p' { seen with cmwb := true } = (none, q) := by
      split at h
      · next hv => exact ⟨by simp [valueOk, e1, keys_distinct, hv], _, h⟩
      · split at h
        · next b hb => exact ⟨by simp [valueOk, e1, keys_distinct, bits_decimal v b hb], _, h⟩
        · cases h
    obtain ⟨hv, p', h⟩ := this
    exact ⟨by simp [knownKey, e1], hv, (seenKey_cmwb e1).trans (Bool.eq_false_iff.mpr hs), p', _, h,
      seenKey_cmwb e1, seen_mono (fun _ => rfl) id id id⟩
  rw [if_neg e1] at h
  by_cases e2 : k = kSmwb
  · simp only [if_pos e2, ite_err_eq_ok] at h
    obtain ⟨_, hs, h⟩ := h
    split at h
    · next b hb =>
      exact ⟨by simp [knownKey, e2], by simp [valueOk, e2, keys_distinct, bits_decimal v b hb],
        (seenKey_smwb e1 e2).trans (Bool.eq_false_iff.mpr hs), _, _, h, seenKey_smwb e1 e2,
        seen_mono id (fun _ => rfl) id id⟩
    · cases h
  rw [if_neg e2] at h
  by_cases e3 : k = kCnct
  · simp only [if_pos e3, ite_err_eq_ok] at h
    obtain ⟨hv, hs, h⟩ := h
    exact ⟨by simp [knownKey, e3], by simpa [valueOk, e3] using hv,
      (seenKey_cnct e1 e2 e3).trans (Bool.eq_false_iff.mpr hs), _, _, h, seenKey_cnct e1 e2 e3,
      seen_mono id id (fun _ => rfl) id⟩
  rw [if_neg e3] at h
  by_cases e4 : k = kSnct
  · simp only [if_pos e4, ite_err_eq_ok] at h
    obtain ⟨hv, hs, h⟩ := h
    exact ⟨by simp [knownKey, e4], by simpa [valueOk, e4] using hv,
      (seenKey_snct e1 e2 e3 e4).trans (Bool.eq_false_iff.mpr hs), _, _, h, seenKey_snct e1 e2 e3 e4,
      seen_mono id id id (fun _ => rfl)⟩
  · rw [if_neg e4] at h; cases h

theorem parseParamsFull_go_ok (ps : List (Bytes × Bytes)) (p q : Params) (seen : Seen)
    (h : parseParamsFull.go ps p seen = (none, q)) :
    (ps.map (·.1)).all knownKey = true ∧ allDistinct (ps.map (·.1)) = true
      ∧ (∀ k ∈ ps.map (·.1), seenKey seen k = false) ∧ ps.all valueOk = true := by
  induction ps generalizing p seen with
  | nil => simp [allDistinct]
  | cons kv rest ih =>
    obtain ⟨k, v⟩ := kv
    obtain ⟨hk, hv, hns, p', seen', hrec, hnow, hmono⟩ := parseParamsFull_go_cons h
    obtain ⟨i1, i2, i3, i4⟩ := ih p' seen' hrec
    -- no later key is marked in `seen'`: none equals `k`, and none was marked in `seen` already
    have hfresh : ∀ k' ∈ rest.map (·.1), k' ≠ k ∧ seenKey seen k' = false := fun k' hk' =>
      ⟨fun e => by simpa [e, hnow] using i3 k' hk', by
        cases hc : seenKey seen k' with
        | false => rfl
        | true => simpa [hmono k' hc] using i3 k' hk'⟩
    refine ⟨by simp [hk, i1], ?_, ?_, by simp [hv, i4]⟩
    · simp only [List.map_cons, allDistinct, i2, Bool.and_true, Bool.not_eq_true', List.contains_eq_mem,
        decide_eq_false_iff_not]
      exact fun hmem => (hfresh k hmem).1 rfl
    · intro k' hk'
      rcases List.mem_cons.mp hk' with rfl | hk'
      · exact hns
      · exact (hfresh k' hk').2

/-- Offers with unknown, duplicated or ill-valued parameters are rejected as errors: whatever
    Parse accepts has only the four known parameter names, each at most once, with the
    *_no_context_takeover value-less and window values plain decimals in 8..15. -/
theorem parse_ok_wellformed (ps : List (Bytes × Bytes)) (p : Params) (h : parseParams ps = .ok p) :
    wellFormedParams ps = true := by
  unfold parseParams at h
  split at h
  · simp at h
  · rename_i q hq
    obtain ⟨h1, h2, _, h4⟩ := parseParamsFull_go_ok ps {} q {} hq
    simp only [wellFormedParams, Bool.and_eq_true]
    exact ⟨⟨h1, h2⟩, h4⟩

def validCfgs : List Params :=
  [false, true].flatMap fun s => [false, true].flatMap fun c =>
    [0, 8, 9, 10, 11, 12, 13, 14, 15].flatMap fun sb => [0, 1, 8, 9, 10, 11, 12, 13, 14, 15].map fun cb =>
      { snct := s, cnct := c, smwb := sb, cmwb := cb }

/-- Parse gives back what Option encoded (under the extension's name), for all 360 representable parameter sets. -/
theorem parse_option_tbl :
    (validCfgs.all fun p => match p.option with
      | some o => (match parseParams o.params with | .ok q => q == p | .error _ => false) && o.name == extName
      | none => false) = true := by
  -- With the encoder spelt out under the four binders the kernel meets `bitsBytes 15` and the like, which it
  -- works out once; `bitsBytes p.smwb` is another term for each of the 360 `p`, decimal expansion and all.
  simp only [validCfgs, List.all_flatMap, List.all_map, Function.comp_def, Params.option]
  decide +kernel

example : CfgValid { smwb := 10, cmwb := 12 } := by decide
example : (negotiate { smwb := 12 } {} ⟨extName, [(kSmwb, strBytes "10")]⟩).1 = .none_ := by decide +kernel
example : isAccept (negotiate { smwb := 10 } {} ⟨extName, [(kSmwb, strBytes "12")]⟩).1 = true := by decide +kernel

end Ws.C14
