/-
  C04 / C08 / C07 — `wsutil.ReadMessage` on a fragmented message. ReadMessage's reader has CheckUTF8 on, so both
  theorems are `readAll_message` (the non-checking reader) carried over by Proofs/ReaderSim: while the message is
  not text the checking reader is, step for step, the non-checking one (`enter_bin`, `readAll_bin_o`); a text message
  goes through the simulation with the collecting handler installed (`enter_text`, `readAll_text_o`).
-/
import WsVerif.Props.C04ReadAll
import WsVerif.Proofs.ReaderSim
import WsVerif.Props.C07Stream
namespace Ws.C04
open Ws Ws.Spec Ws.RdProof Ws.RdCb Ws.RdText Ws.RdBin

/-- C04 / C08: for every fragmentation, every placement of control frames between the fragments and every transport
    chunking, wsutil.ReadMessage on a fragmented non-text message returns the interleaved control frames first — each
    once, in stream order, with its exact unmasked payload — then one message with the first frame's opcode and the
    concatenation of the fragments' payloads, no error, and leaves the transport at the first byte after the message. -/
theorem readMessage_fragmented (state : Nat) (s : Src) (f0 : WFrame) (fs : List WFrame) (rest : Bytes)
    (hst : state < 256) (hnf : stIs state stFragmented = false)
    (hm : Message ({ state } : Rd) f0 fs) (hfin : f0.h.fin = false) (hnt : f0.h.op ≠ opText)
    (hb : s.bytes = encodeFs (f0 :: fs) ++ rest) (hwf : Bytes.WF s.bytes) (htame : Src.Tame s) :
    ∃ s', readMessage state s = (controls fs ++ [(f0.h.op, dataPlain (f0 :: fs))], none, s') ∧ s'.bytes = rest := by
  have hfr0 : ({ state } : Rd).fragmented = false := hnf
  obtain ⟨q1, s1, q', s', hnext, hall, hb'⟩ := readAll_message { state } s {} f0 fs rest hfr0 hst rfl rfl hm hb hwf htame
  -- the checking reader enters the first frame the same way and is inside a message that is not text
  obtain ⟨r1, hA, rfl, hbin⟩ := enter_bin (ok_some collect_ok) { state, checkUTF8 := true } hnext hnf rfl rfl rfl hnt
  obtain ⟨r', hR⟩ := readAll_bin_o (ok_some collect_ok) hbin hall
  refine ⟨s', ?_, hb'⟩
  unfold readMessage
  simp only [collectCb_eq, hA, hfin, Bool.false_eq_true, if_false, hR]
  simp

/- A masked binary message in three fragments (the middle one empty) with the ping of Props/C04 between them, server
   side, two transport chunks, two bytes of the next frame behind. -/
def bF0 : WFrame := ⟨⟨false, 0, 2, true, ⟨1, 2, 3, 4⟩, 3⟩, [0x69, 0x67, 0x6f]⟩

example : Message ({ state := 1 } : Rd) bF0 [exPing, exF1, exF2] := by
  refine ⟨⟨by decide, by decide, by decide, by decide⟩, by decide, ⟨by decide, by decide⟩, ?_⟩
  exact exTail

example :
    readMessage 1 { chunks := [(encodeFs [bF0, exPing, exF1, exF2]).take 7, (encodeFs [bF0, exPing, exF1, exF2]).drop 7 ++ [0x81, 0x85]], fin := .eof }
      = ([(9, exPing.plain), (2, [0x68, 0x65, 0x6c, 0x6c, 0x6f])], none, { chunks := [[0x81, 0x85]], fin := .eof }) := by decide

end Ws.C04

namespace Ws.C07
open Ws Ws.Spec Ws.RdProof Ws.RdCb Ws.RdText Ws.RdBin Ws.C04

/-- C07: a fragmented text message (a character may straddle fragments) is returned by wsutil.ReadMessage as in
    `C04.readMessage_fragmented` exactly when the concatenated payload is well-formed UTF-8; otherwise the error is
    ErrInvalidUTF8. -/
theorem readMessage_fragmented_text (state : Nat) (s : Src) (f0 : WFrame) (fs : List WFrame) (rest : Bytes)
    (hst : state < 256) (hnf : stIs state stFragmented = false)
    (hm : Message ({ state } : Rd) f0 fs) (hfin : f0.h.fin = false) (htext : f0.h.op = opText)
    (hb : s.bytes = encodeFs (f0 :: fs) ++ rest) (hwf : Bytes.WF s.bytes) (htame : Src.Tame s) :
    (wfUtf8 (dataPlain (f0 :: fs)) = true →
        ∃ s', readMessage state s = (controls fs ++ [(opText, dataPlain (f0 :: fs))], none, s') ∧ s'.bytes = rest)
    ∧ (wfUtf8 (dataPlain (f0 :: fs)) = false → (readMessage state s).2.1 = some .utf8) := by
  have hfr0 : ({ state } : Rd).fragmented = false := hnf
  obtain ⟨q1, s1, q', s', hnext, hall, hb'⟩ := readAll_message { state } s {} f0 fs rest hfr0 hst rfl rfl hm hb hwf htame
  obtain ⟨r1, hA, rfl, htm⟩ := enter_text (ok_some collect_ok) { state, checkUTF8 := true } hnext hnf rfl rfl htext
  obtain ⟨p1, p2⟩ := readAll_text_o (ok_some collect_ok) (ne_some collect_ne) htm hall
    hm.dataPlain_wf
  unfold readMessage
  simp only [collectCb_eq, hA, hfin, Bool.false_eq_true, if_false]
  refine ⟨fun hgood => ?_, fun hbad => ?_⟩
  · obtain ⟨r', hR⟩ := p1 hgood
    exact ⟨s', by simp [hR, htext], hb'⟩
  · have hR := p2 hbad
    rcases hP : readAllRd r1 s1 {} (some collect) with ⟨p, e, r2, s2, cx2⟩
    rw [hP] at hR
    simp only at hR
    subst hR
    rfl

/-- The message of Props/C04 through ReadMessage; and the euro sign split across two fragments, whole and with its last
    byte missing (Props/C07Stream), client side. -/
example : (readMessage 1 exSrc).1 = [(9, exPing.plain), (1, [0x68, 0x65, 0x6c, 0x6c, 0x6f])] ∧ (readMessage 1 exSrc).2.1 = none := by
  constructor <;> decide
example : (readMessage 2 (euSrc euF2)).1 = [(1, [0x61, 0xe2, 0x82, 0xac])] ∧ (readMessage 2 (euSrc euF2)).2.1 = none
    ∧ (readMessage 2 (euSrc euF2bad)).2.1 = some .utf8 := by
  refine ⟨by decide, by decide, by decide⟩

end Ws.C07
