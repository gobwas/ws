/-
  C04 / C07 — the `wsutil.ReadData` family (ReadClientData, ReadServerText, …), i.e. the loop NextFrame → ioutil.ReadAll
  of `readData`: on an unfragmented message of a wanted type (a text is returned iff it is well-formed UTF-8), and
  behind a history of unfragmented messages of a type not asked for, which are Discarded. Stated on the helper's
  loop for an arbitrary idle reader (`Idle`), so the statements do not depend on how many messages the same reader
  has already gone through.
-/
import WsVerif.Props.C04Idle
import WsVerif.Proofs.HandlerEof
import WsVerif.Proofs.ReaderPong
namespace Ws.C04
open Ws Ws.Spec Ws.RdProof Ws.RdText Ws.RdBin Ws.RdPong

/-- what reading a final frame to its end leaves of the reader: state and configuration as before, a fresh validator -/
def SameCfg (r r' : Rd) : Prop :=
  r'.state = r.state ∧ r'.checkUTF8 = r.checkUTF8 ∧ r'.ext = r.ext ∧ r'.skipCheck = r.skipCheck
    ∧ r'.maxFrame = r.maxFrame ∧ r'.utf8 = {}

theorem SameCfg.idle {state : Nat} {r r' : Rd} (h : SameCfg r r') (hi : Idle state r) : Idle state r' :=
  ⟨h.1.trans hi.st, h.2.1.trans hi.chk, h.2.2.1.trans hi.ext, h.2.2.2.1.trans hi.skip, h.2.2.2.2.1.trans hi.maxF, h.2.2.2.2.2⟩

/-- read-until-error inside the only (or last) frame of a message, for any buffer size (ioutil.ReadAll: 512, the control
    handler's io.Copy: 32768) and any OnIntermediate handler (it is never called): the rest of the payload, then io.EOF -/
theorem pull_final_k (cb : Option Callback) (k : Nat) (hk : 0 < k) (fuel : Nat) :
    ∀ (r : Rd) (s : Src) (cx : Ctx) (acc : List Bytes) (wire rest : Bytes),
      InFrame r s wire rest → r.fragmented = false → (r.checkUTF8 = false ∨ r.utf8.valid = true) → mu s + 1 < fuel →
      ∃ chunks r' s', Rd.pull true k cb fuel r s cx acc = (acc.reverse ++ chunks, .eof, r', s', cx)
        ∧ chunks.flatten = plainOf r wire ∧ s'.bytes = rest ∧ Src.Tame s' ∧ SameCfg r r' := by
  have key : ∀ (fuel : Nat) (r : Rd) (s : Src) (cx : Ctx) (wire rest : Bytes),
      InFrame r s wire rest → r.fragmented = false → (r.checkUTF8 = false ∨ r.utf8.valid = true) → mu s + 1 < fuel →
      ∃ chunks r' s', Rd.pull true k cb fuel r s cx [] = (chunks, .eof, r', s', cx)
        ∧ chunks.flatten = plainOf r wire ∧ s'.bytes = rest ∧ Src.Tame s' ∧ SameCfg r r' := by
    intro fuel
    induction fuel with
    | zero => intro r s cx wire rest _ _ _ hf; omega
    | succ n ih =>
      intro r s cx wire rest hin hnf hv hf
      obtain ⟨g, s1, ⟨_, hread, hin', hnf', hv', hmu, hsplit, hlen⟩ | ⟨_, hread, hb1, ht1⟩⟩ := read_final r s cx cb wire rest k hin hk hnf hv
      · obtain ⟨chunks, r', s', hp', hfl, hb', ht', hcfg⟩ := ih (adv r g) s1 cx _ rest hin' hnf' hv' (by omega)
        exact ⟨keep _ ++ chunks, r', s', by rw [pull_round n hread hlen, hp'], by rw [List.flatten_append, keep_flatten, hfl, hsplit],
          hb', ht', hcfg⟩
      · exact ⟨keep _, _, s1, pull_round n hread (plainOf_length r wire).symm, keep_flatten _, hb1, ht1, rfl, rfl, rfl, rfl, rfl, rfl⟩
  intro r s cx acc wire rest hin hnf hv hf
  obtain ⟨chunks, r', s', hp, h⟩ := key fuel r s cx wire rest hin hnf hv hf
  exact ⟨chunks, r', s', by rw [pull_acc, hp], h⟩

theorem loop_data {want : Nat} {errText : ProtoErr → Bytes} {client : Bool} {inter : Callback} {r0 r1 : Rd} {s s1 : Src}
    {cx cx1 : Ctx} {h : Header} (fuel : Nat) (hnext : r0.nextFrame s cx (some inter) = (some h, none, r1, s1, cx1))
    (hdata : opIsControl h.op = false) (hwant : (h.op &&& want == 0) = false)
    {out : Bytes} {e : Option RErr} {r' : Rd} {s' : Src} {cx' : Ctx}
    (hR : readAllRd r1 s1 cx1 (some inter) = (out, e, r', s', cx')) :
    readData.loop want errText client inter (fuel + 1) r0 s cx = (out, h.op, e, s', cx') := by
  rw [readData.loop]
  simp only [hnext, hdata, Bool.false_eq_true, if_false, hwant, hR]

theorem loop_single (state want : Nat) (errText : ProtoErr → Bytes) {client : Bool} {inter : Callback}
    (r0 : Rd) (s : Src) (cx : Ctx) (fuel : Nat) (f : WFrame) (rest : Bytes)
    (hi : Idle state r0)
    (hst : state < 256) (hnf : stIs state stFragmented = false)
    (hok : f.OK) (hfin : f.h.fin = true) (hdata : opIsControl f.h.op = false) (hnt : f.h.op ≠ opText)
    (hwant : (f.h.op &&& want == 0) = false)
    (hacc : checkHeader f.h state = none)
    (hb : s.bytes = f.enc ++ rest) (hwf : Bytes.WF s.bytes) (htame : Src.Tame s) :
    ∃ s', readData.loop want errText client inter (fuel + 1) r0 s cx = (f.plain, f.h.op, none, s', cx) ∧ s'.bytes = rest := by
  obtain ⟨s1, hnext, _, hin⟩ := hi.nextFrame hnf hok hacc hb hwf htame cx (some inter)
  obtain ⟨chunks, r', s', hp, hfl, hb', _⟩ := pull_final_k (some inter) 512 (by decide) (pullFuel s1) (enter r0 f.h) s1 cx [] f.wire rest
    (hin hnt) (hi.enter_final hst hnf hfin).2 (hi.valid_enter f.h) (pullFuel_gt s1)
  refine ⟨s', loop_data fuel hnext hdata hwant (r' := r') ?_, hb'⟩
  unfold readAllRd
  rw [hp]
  simp [hfl, WFrame.plain_enter]

/-- The wanted message, once the reader under the validator (`strip r1`, Proofs/ReaderSim) has read it to its clean end:
    if it is not text the loop returns it as read; if it is text, iff it is well-formed. -/
theorem loop_wanted (want fuel : Nat) {errText : ProtoErr → Bytes} {client : Bool} {r0 r1 q : Rd} {s s1 s' : Src} {cx cx' : Ctx}
    {h : Header} {out : Bytes}
    (hnext : r0.nextFrame s cx (some (pongH client errText)) = (some h, none, r1, s1, cx))
    (hdata : opIsControl h.op = false) (hwant : (h.op &&& want == 0) = false)
    (hS : readAllRd (strip r1) s1 cx (some (pongH client errText)) = (out, none, q, s', cx')) (hwf : Bytes.WF out) :
    (Bin r1 → readData.loop want errText client (pongH client errText) (fuel + 1) r0 s cx = (out, h.op, none, s', cx'))
    ∧ (TM .acc r1 →
        (wfUtf8 out = true → readData.loop want errText client (pongH client errText) (fuel + 1) r0 s cx = (out, h.op, none, s', cx'))
        ∧ (wfUtf8 out = false → (readData.loop want errText client (pongH client errText) (fuel + 1) r0 s cx).2.2.1 = some .utf8)) := by
  have ho := ok_some (ctlHandler_ok client errText)
  refine ⟨fun hbin => ?_, fun htm => ?_⟩
  · obtain ⟨r', hr⟩ := readAll_bin_o ho hbin hS
    exact loop_data fuel hnext hdata hwant hr
  · obtain ⟨p1, p2⟩ := readAll_text_o ho (ne_some (ctlHandler_ne client errText)) htm hS hwf
    refine ⟨fun hgood => ?_, fun hbad => ?_⟩
    · obtain ⟨r', hr⟩ := p1 hgood
      exact loop_data fuel hnext hdata hwant hr
    · rcases hX : readAllRd r1 s1 cx (some (pongH client errText)) with ⟨o2, e2, r2, s2, cx2⟩
      rw [loop_data fuel hnext hdata hwant hX]
      rw [hX] at p2
      exact p2 hbad

theorem loop_single_text (state want : Nat) (errText : ProtoErr → Bytes) (client : Bool)
    (r0 : Rd) (s : Src) (cx : Ctx) (fuel : Nat) (f : WFrame) (rest : Bytes)
    (hi : Idle state r0)
    (hst : state < 256) (hnf : stIs state stFragmented = false)
    (hok : f.OK) (hfin : f.h.fin = true) (htext : f.h.op = opText)
    (hwant : (opText &&& want == 0) = false)
    (hacc : checkHeader f.h state = none)
    (hb : s.bytes = f.enc ++ rest) (hwf : Bytes.WF s.bytes) (htame : Src.Tame s) :
    (wfUtf8 f.plain = true →
        ∃ s', readData.loop want errText client (pongH client errText) (fuel + 1) r0 s cx = (f.plain, opText, none, s', cx) ∧ s'.bytes = rest)
    ∧ (wfUtf8 f.plain = false → (readData.loop want errText client (pongH client errText) (fuel + 1) r0 s cx).2.2.1 = some .utf8) := by
  obtain ⟨s1, hnext, hin, _⟩ := hi.nextFrame hnf hok hacc hb hwf htame cx (some (pongH client errText))
  obtain ⟨chunks, q, s', hp, hfl, hb', _⟩ := pull_final_k (some (pongH client errText)) 512 (by decide) (pullFuel s1) (strip (enter r0 f.h)) s1 cx []
    f.wire rest hin (hi.enter_final hst hnf hfin).2 (Or.inl rfl) (pullFuel_gt s1)
  have hS : readAllRd (strip (enter r0 f.h)) s1 cx (some (pongH client errText)) = (f.plain, none, q, s', cx) := by
    unfold readAllRd
    rw [hp]
    simp [hfl]
    exact f.plain_enter r0
  have h3 := (loop_wanted want fuel hnext (by rw [htext]; rfl) (by rw [htext]; exact hwant) hS hok.plain_wf).2 (hi.tm_enter hnf htext)
  rw [htext] at h3
  exact ⟨fun hg => ⟨s', h3.1 hg, hb'⟩, h3.2⟩

/-- C04: the ReadData family on an unfragmented non-text message of a wanted type returns the unmasked payload with its
    opcode and no error, writes nothing and leaves the transport at the first byte after the frame, for every chunking. -/
theorem readData_single (state want : Nat) (errText : ProtoErr → Bytes) (s : Src) (env : Env) (fuel : Nat)
    (f : WFrame) (rest : Bytes)
    (hst : state < 256) (hnf : stIs state stFragmented = false)
    (hok : f.OK) (hfin : f.h.fin = true) (hdata : opIsControl f.h.op = false) (hnt : f.h.op ≠ opText)
    (hwant : (f.h.op &&& want == 0) = false)
    (hacc : checkHeader f.h state = none)
    (hb : s.bytes = f.enc ++ rest) (hwf : Bytes.WF s.bytes) (htame : Src.Tame s) :
    ∃ s', readData state want errText s env (fuel + 1) = (f.plain, f.h.op, none, s', { env }) ∧ s'.bytes = rest :=
  loop_single state want errText _ s { env } fuel f rest (idle_init state) hst hnf hok hfin hdata hnt hwant hacc hb hwf htame

/-- C04 / C07: the ReadData family on an unfragmented text message (text wanted) returns the payload with no error iff
    it is well-formed UTF-8, ErrInvalidUTF8 otherwise. -/
theorem readData_single_text (state want : Nat) (errText : ProtoErr → Bytes) (s : Src) (env : Env) (fuel : Nat)
    (f : WFrame) (rest : Bytes)
    (hst : state < 256) (_hnf : stIs state stFragmented = false)
    (hok : f.OK) (hfin : f.h.fin = true) (htext : f.h.op = opText)
    (hwant : (opText &&& want == 0) = false)
    (hacc : checkHeader f.h state = none)
    (hb : s.bytes = f.enc ++ rest) (hwf : Bytes.WF s.bytes) (htame : Src.Tame s) :
    (wfUtf8 f.plain = true → ∃ s', readData state want errText s env (fuel + 1) = (f.plain, opText, none, s', { env }) ∧ s'.bytes = rest)
    ∧ (wfUtf8 f.plain = false → (readData state want errText s env (fuel + 1)).2.2.1 = some .utf8) :=
  loop_single_text state want errText _ _ s { env } fuel f rest (idle_init state) hst _hnf hok hfin htext hwant hacc hb hwf htame

/-- Discard over a message without interleaved control frames, for any OnIntermediate handler (it is never called). -/
theorem discard_tail_nc (cb : Option Callback) (skip : Bool) (st maxF : Nat) (rest : Bytes) (cx : Ctx) (fs : List WFrame)
    (ht : Tail false skip st maxF fs) (hnc : ∀ f ∈ fs, opIsControl f.h.op = false) :
    ∀ (r : Rd) (s : Src) (wire : Bytes) (fuel : Nat),
      Common skip st maxF r s → r.state = st → r.rawN = wire.length → s.bytes = wire ++ (encodeFs fs ++ rest) →
      fs.length < fuel →
      ∃ r' s', r.discard s cx cb fuel = (none, r', s', cx) ∧ s'.bytes = rest ∧ Src.Tame s' := by
  intro r s wire fuel hc hst hn hb hfuel
  obtain ⟨r', s', cx', hd, hb', ht', hrun, _⟩ := discard_closed (handles_any cb) skip st maxF rest fs ht
    (fun f hf hctl => by rw [hnc f hf] at hctl; cases hctl) r s wire fuel cx hc.cfg hst hn hb hfuel trivial
  cases Run.same (fun _ _ _ h => h) hrun
  exact ⟨r', s', hd, hb', ht'⟩

/-- ReadClientData (server side, text or binary wanted) on the masked text "é" and on a lone C3, and with binary only
    wanted on a masked binary frame — each off two transport chunks. -/
example :
    readData 1 3 (fun _ => []) { chunks := [[0x81, 0x82, 0, 0], [0, 0, 0xc3, 0xa9, 0x88]], fin := .eof } {} 4
      = ([0xc3, 0xa9], 1, none, { chunks := [[0x88]], fin := .eof }, {})
    ∧ (readData 1 3 (fun _ => []) { chunks := [[0x81, 0x81, 0, 0], [0, 0, 0xc3, 0x88]], fin := .eof } {} 4).2.2.1 = some .utf8
    ∧ readData 1 2 (fun _ => []) { chunks := [[0x82, 0x82, 1, 2], [3, 4, 0x60, 0x60, 0x88]], fin := .eof } {} 4
      = ([0x61, 0x62], 2, none, { chunks := [[0x88]], fin := .eof }, {}) := by
  refine ⟨by decide, by decide, by decide⟩

/-- one unfragmented data message of a type not asked for is Discarded whole, and the reader is idle again -/
theorem loop_skip (state want : Nat) (errText : ProtoErr → Bytes) (client : Bool) (inter : Callback)
    (r0 : Rd) (s : Src) (cx : Ctx) (fuel : Nat) (f : WFrame) (rest : Bytes)
    (hi : Idle state r0)
    (hst : state < 256) (hnf : stIs state stFragmented = false)
    (hok : f.OK) (hfin : f.h.fin = true) (hdata : opIsControl f.h.op = false)
    (hunw : (f.h.op &&& want == 0) = true)
    (hacc : checkHeader f.h state = none)
    (hb : s.bytes = f.enc ++ rest) (hwf : Bytes.WF s.bytes) (htame : Src.Tame s) :
    ∃ r2 s2, readData.loop want errText client inter (fuel + 1) r0 s cx = readData.loop want errText client inter fuel r2 s2 cx
      ∧ Idle state r2 ∧ s2.bytes = rest ∧ Src.Tame s2 := by
  obtain ⟨s1, hnext, hin, _⟩ := hi.nextFrame hnf hok hacc hb hwf htame cx (some inter)
  obtain ⟨hidle, hnf1⟩ := hi.enter_final hst hnf hfin
  have hpf : pullFuel s1 = (pullFuel s1 - 1) + 1 := by unfold pullFuel; omega
  obtain ⟨s2, hdisc, hb2, ht2⟩ := discard_final_frame (enter r0 f.h) s1 cx (some inter) (pullFuel s1 - 1) f.wire rest hnf1 hin.bytes
    (by simp [enter, hok.len]) hin.tame
  rw [← hpf] at hdisc
  refine ⟨({ enter r0 f.h with rawN := 0 } : Rd).reset, s2, ?_, ⟨hidle.st, hidle.chk, hidle.ext, hidle.skip, hidle.maxF, rfl⟩, hb2, ht2⟩
  rw [readData.loop]
  simp only [hnext, hdata, Bool.false_eq_true, if_false, hunw, if_true, hdisc]

structure Unwanted (state want : Nat) (f : WFrame) : Prop where
  ok : f.OK
  fin : f.h.fin = true
  data : opIsControl f.h.op = false
  unw : (f.h.op &&& want == 0) = true
  acc : checkHeader f.h state = none

theorem passes_skip {state want : Nat} {errText : ProtoErr → Bytes} {client : Bool} {inter : Callback} {I : Ctx → Prop}
    (hst : state < 256) (hnf : stIs state stFragmented = false) {u : WFrame} (hu : Unwanted state want u) :
    Passes (readData.loop want errText client inter) state u.enc 1 I Eq := by
  intro fuel rest r s cx hi hI hb hwf ht
  obtain ⟨r1, s1, h1, hi1, hb1, ht1⟩ := loop_skip state want errText client inter r s cx fuel u rest hi hst hnf hu.ok hu.fin hu.data
    hu.unw hu.acc hb hwf ht
  exact ⟨r1, s1, cx, h1, hi1, hI, hb1, hb1 ▸ wf_append_right (hb ▸ hwf), ht1, rfl⟩

theorem passes_unwanted (state want : Nat) (errText : ProtoErr → Bytes) {client : Bool} {inter : Callback}
    (hst : state < 256) (hnf : stIs state stFragmented = false) :
    ∀ us : List WFrame, (∀ u ∈ us, Unwanted state want u) →
      Passes (readData.loop want errText client inter) state (encodeFs us) us.length (fun _ => True) Eq
  | [], _ => Passes.nil fun _ => rfl
  | u :: us, hus =>
    (passes_skip hst hnf (hus u (List.mem_cons_self ..))).append
      (passes_unwanted state want errText hst hnf us fun g hg => hus g (List.mem_cons_of_mem _ hg))
      (Nat.add_comm _ _) fun _ _ _ => Eq.trans

/-- ReadData after a history of unwanted messages (non-text wanted): the first message of a wanted type is returned
    whole with its opcode, the transport stands right after it, nothing was written. -/
theorem readData_after_unwanted (state want : Nat) (errText : ProtoErr → Bytes) (s : Src) (env : Env) (fuel : Nat)
    (us : List WFrame) (f : WFrame) (rest : Bytes)
    (hst : state < 256) (hnf : stIs state stFragmented = false)
    (hus : ∀ u ∈ us, Unwanted state want u)
    (hok : f.OK) (hfin : f.h.fin = true) (hdata : opIsControl f.h.op = false) (hnt : f.h.op ≠ opText)
    (hwant : (f.h.op &&& want == 0) = false)
    (hacc : checkHeader f.h state = none)
    (hb : s.bytes = encodeFs us ++ (f.enc ++ rest)) (hwf : Bytes.WF s.bytes) (htame : Src.Tame s) :
    ∃ s', readData state want errText s env (fuel + 1 + us.length) = (f.plain, f.h.op, none, s', { env }) ∧ s'.bytes = rest := by
  obtain ⟨r2, s2, _, h2, hi2, _, hb2, hwf2, ht2, rfl⟩ := (passes_unwanted state want errText hst hnf us hus).readData s env (fuel + 1)
    (f.enc ++ rest) trivial hb hwf htame
  rw [h2]
  exact loop_single state want errText r2 s2 { env } fuel f rest hi2 hst hnf hok hfin hdata hnt hwant hacc hb2 hwf2 ht2

/-- ReadData after a history of unwanted messages, text wanted: the first text message is returned iff it is
    well-formed UTF-8 (the validator of the reader that skipped the others is fresh), ErrInvalidUTF8 otherwise. -/
theorem readData_text_after_unwanted (state want : Nat) (errText : ProtoErr → Bytes) (s : Src) (env : Env) (fuel : Nat)
    (us : List WFrame) (f : WFrame) (rest : Bytes)
    (hst : state < 256) (hnf : stIs state stFragmented = false)
    (hus : ∀ u ∈ us, Unwanted state want u)
    (hok : f.OK) (hfin : f.h.fin = true) (htext : f.h.op = opText)
    (hwant : (opText &&& want == 0) = false)
    (hacc : checkHeader f.h state = none)
    (hb : s.bytes = encodeFs us ++ (f.enc ++ rest)) (hwf : Bytes.WF s.bytes) (htame : Src.Tame s) :
    (wfUtf8 f.plain = true →
        ∃ s', readData state want errText s env (fuel + 1 + us.length) = (f.plain, opText, none, s', { env }) ∧ s'.bytes = rest)
    ∧ (wfUtf8 f.plain = false → (readData state want errText s env (fuel + 1 + us.length)).2.2.1 = some .utf8) := by
  obtain ⟨r2, s2, _, h2, hi2, _, hb2, hwf2, ht2, rfl⟩ := (passes_unwanted state want errText hst hnf us hus).readData s env (fuel + 1)
    (f.enc ++ rest) trivial hb hwf htame
  rw [h2]
  exact loop_single_text state want errText _ r2 s2 { env } fuel f rest hi2 hst hnf hok hfin htext hwant hacc hb2 hwf2 ht2

example : Unwanted stServer opText ⟨{ fin := true, rsv := 0, op := opBinary, masked := true, mask := ⟨1, 2, 3, 4⟩, len := 2 }, [9, 9]⟩ :=
  ⟨⟨by decide, rfl, by decide, by decide⟩, rfl, rfl, by decide, by decide⟩

end Ws.C04
