/-
  C07 — Text messages are accepted iff their whole payload is valid UTF-8.
  Here: the DFA table and the standalone validating reader against Table 3-7, for every byte string
  and every chunking. The message reader (stream level) is in Props/C07Stream.lean.
-/
import WsVerif.Proofs.Utf8
namespace Ws.C07
open Ws Ws.Spec

/-- Every one of the 9 × 256 transitions of utf8d is the Table 3-7 transition. -/
theorem table_ok (s : U8) (b : Nat) (hb : b < 256) :
    utf8Step (u8Enc s) b = some (u8Enc (u8Step s b)) := utf8Step_ok s hb

/-- Run of the Go DFA from a state over a byte string (`none` = index panic). -/
def utf8Run : Nat → Bytes → Option Nat
  | s, [] => some s
  | s, b :: bs => match utf8Step s b with
    | none => none
    | some s' => utf8Run s' bs

theorem run_ok (s : U8) (bs : Bytes) (hb : Bytes.WF bs) :
    utf8Run (u8Enc s) bs = some (u8Enc (u8Run s bs)) := by
  induction bs generalizing s with
  | nil => rfl
  | cons b bs ih =>
    obtain ⟨hb0, hbs⟩ := Bytes.wf_cons.mp hb
    simp only [utf8Run, table_ok s b hb0, u8Run_cons]
    exact ih _ hbs

/-- The DFA ends in ACCEPT exactly on well-formed UTF-8 (no overlongs, no surrogates, nothing
    above U+10FFFF). -/
theorem dfa_iff (bs : Bytes) (hb : Bytes.WF bs) : utf8Run utf8Accept bs = some utf8Accept ↔ wfUtf8 bs = true := by
  rw [show utf8Accept = u8Enc .acc from rfl, run_ok .acc bs hb, wfUtf8, Option.some_inj, beq_iff_eq]
  exact ⟨u8Enc_inj, congrArg u8Enc⟩

/-- No byte leads out of REJECT, which is why `UTF8Reader.Read` may stop at the first one (`feed_go`). -/
theorem dfa_reject_sticky (bs : Bytes) (hb : Bytes.WF bs) : utf8Run utf8Reject bs = some utf8Reject := by
  rw [show utf8Reject = u8Enc .rej from rfl, run_ok .rej bs hb, u8Run_rej]

/-- Validity does not depend on where the byte string is split — in the middle of a code point
    included. -/
theorem dfa_split (s : U8) (a b : Bytes) : u8Run s (a ++ b) = u8Run (u8Run s a) b := u8Run_append s a b

theorem feed_go (u : Utf8Rd) (s : U8) (acc i : Nat) (p : Bytes) (hp : Bytes.WF p) :
    ∃ n bad u', Utf8Rd.feed.go u (u8Enc s) acc i p = some (n, bad, u')
      ∧ u'.state = u8Enc (u8Run s p) := by
  induction p generalizing s acc i with
  | nil => exact ⟨_, _, _, rfl, rfl⟩
  | cons b bs ih =>
    obtain ⟨hb0, hbs⟩ := Bytes.wf_cons.mp hp
    simp only [Utf8Rd.feed.go, table_ok s b hb0, u8Run_cons]
    by_cases hr : u8Enc (u8Step s b) = utf8Reject
    · -- the reader stops at REJECT, and so does Table 3-7
      have : u8Step s b = .rej := u8Enc_inj hr
      rw [if_pos hr, this, u8Run_rej]
      exact ⟨_, _, _, rfl, rfl⟩
    · rw [if_neg hr]
      exact ih _ _ _ hbs

theorem feed_state (u : Utf8Rd) (s : U8) (hs : u.state = u8Enc s) (p : Bytes) (hp : Bytes.WF p) :
    ∃ n bad u', u.feed p = some (n, bad, u') ∧ u'.state = u8Enc (u8Run s p) := by
  unfold Utf8Rd.feed
  rw [hs]
  exact feed_go u s 0 0 p hp

/-- Feed a validating reader the chunks of any chunking, one Read per chunk. -/
def feedAll (u : Utf8Rd) : List Bytes → Option Utf8Rd
  | [] => some u
  | c :: cs => match u.feed c with
    | none => none
    | some (_, _, u') => feedAll u' cs

/-- The validating reader's verdict after reading a byte string in any chunking is the standard
    definition of UTF-8 validity. -/
theorem utf8reader_any_chunking (cs : List Bytes) (hc : Bytes.WF cs.flatten) :
    ∃ u, feedAll {} cs = some u ∧ (u.valid = wfUtf8 cs.flatten) := by
  suffices h : ∀ (cs : List Bytes) (u0 : Utf8Rd) (s : U8), u0.state = u8Enc s → Bytes.WF cs.flatten →
      ∃ u, feedAll u0 cs = some u ∧ u.state = u8Enc (u8Run s cs.flatten) by
    obtain ⟨u, h1, h2⟩ := h cs {} .acc rfl hc
    refine ⟨u, h1, ?_⟩
    rw [Utf8Rd.valid, wfUtf8, h2, show utf8Accept = u8Enc .acc from rfl, Bool.eq_iff_iff, beq_iff_eq, beq_iff_eq]
    exact ⟨u8Enc_inj, congrArg u8Enc⟩
  intro cs
  induction cs with
  | nil => intro u0 s hs _; exact ⟨u0, rfl, by simpa [u8Run] using hs⟩
  | cons c cs ih =>
    intro u0 s hs hw
    obtain ⟨hwc, hwr⟩ := Bytes.wf_append.mp (List.flatten_cons ▸ hw)
    obtain ⟨n, bad, u', h1, h2⟩ := feed_state u0 s hs c hwc
    obtain ⟨u, g1, g2⟩ := ih u' (u8Run s c) h2 hwr
    refine ⟨u, by simp [feedAll, h1, g1], ?_⟩
    rw [g2, List.flatten_cons, u8Run_append]

/- "é", whole and split between its two bytes; an overlong slash, a surrogate, a code point above U+10FFFF. -/
example : wfUtf8 [0xC3, 0xA9] = true ∧ wfUtf8 [0xC0, 0xAF] = false ∧ wfUtf8 [0xED, 0xA0, 0x80] = false
    ∧ wfUtf8 [0xF4, 0x90, 0x80, 0x80] = false := by decide
example : (feedAll {} [[0xC3], [0xA9]]).map (·.valid) = some true := by decide +kernel

end Ws.C07
