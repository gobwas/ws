/-
  C03 — Header and close-payload validity checks decide exactly the RFC 6455 rules.
-/
import WsVerif.Proofs.Check
namespace Ws.C03
open Ws Ws.Spec

/-- ws.CheckHeader accepts exactly when none of the eight rules it owns is broken. -/
theorem check_none_iff (h : Header) (s : Nat) (hop : h.op < 16) (hs : s < 256) :
    checkHeader h s = none ↔ ∀ r, ¬ Broken r h (stOf s) := by
  simp [checkHeader_eq_find h s hop hs, mem_allRules]

/-- When ws.CheckHeader rejects, the error it reports names a rule that is actually broken. -/
theorem check_some_sound (h : Header) (s : Nat) (hop : h.op < 16) (hs : s < 256) (e : ProtoErr)
    (he : checkHeader h s = some e) : ∃ r, ruleOf e = some r ∧ Broken r h (stOf s) := by
  rw [checkHeader_eq_find h s hop hs, Option.map_eq_some_iff] at he
  obtain ⟨r, hr, rfl⟩ := he
  exact ⟨r, ruleOf_errOf r, by simpa using List.find?_some hr⟩

/-- ws.CheckCloseFrameData accepts 1000-1003, 1007-1011 and 3000-4999 with a valid UTF-8 reason. -/
theorem close_accepts (c : Nat) (reason : Bytes) (hc : closeOk c) (hr : wfUtf8 reason = true) :
    checkCloseFrameData c reason = none :=
  (checkClose_none_iff c reason).mpr ⟨by unfold closeOk at hc; omega, hr⟩

/-- Every other code below 5000 is refused, 1012-1014 (registered after the RFC) being left out of
    the statement; by `checkClose_none_iff` the model refuses those too. -/
theorem close_refuses (c : Nat) (reason : Bytes) (hlt : c < 5000) (hn : ¬ closeOk c)
    (hopen : ¬ (1012 ≤ c ∧ c ≤ 1014)) : checkCloseFrameData c reason ≠ none := by
  intro h
  have := ((checkClose_none_iff c reason).mp h).1
  unfold closeOk at hn
  omega

/-- Only a valid UTF-8 reason is accepted, whatever the code. -/
theorem close_utf8 (c : Nat) (reason : Bytes) (h : checkCloseFrameData c reason = none) :
    wfUtf8 reason = true :=
  ((checkClose_none_iff c reason).mp h).2

theorem put_exact (p : Bytes) (c : Nat) (r : Bytes) (h : p.length = 2 + r.length) :
    putCloseFrameBody p c r = some (putU16 (c % 65536) ++ r) := by
  rw [putCloseFrameBody, if_neg (by omega), List.drop_of_length_le (by omega), List.append_nil]

theorem parse_put (c : Nat) (hc : c < 65536) (r : Bytes) :
    parseCloseFrameData (putU16 (c % 65536) ++ r) = (c, r) := by
  have hm : c % 65536 = c := by omega
  simp only [parseCloseFrameData, putU16, hm, List.cons_append, List.nil_append, List.length_cons,
    List.take_succ_cons, List.take_zero, List.drop_succ_cons, List.drop_zero, beVal, List.length_nil]
  rw [if_neg (by omega)]
  congr 1
  omega

theorem newCloseFrameBody_eq (c : Nat) (reason : Bytes) :
    newCloseFrameBody c reason = some (putU16 (c % 65536) ++ reason.take 123) := by
  have hcrop : reason.take (min (125 - 2) reason.length) = reason.take 123 := by
    rw [List.take_eq_take_iff]; omega
  rw [newCloseFrameBody, maxControlFramePayloadSize, hcrop]
  exact put_exact _ c _ (by rw [List.length_replicate, List.length_take]; omega)

/-- ws.NewCloseFrameBody never panics; its body is at most 125 bytes and ws.ParseCloseFrameData
    reads back the same code and the reason cropped to the 123 bytes a control payload has left. -/
theorem body_roundtrip (c : Nat) (hc : c < 65536) (reason : Bytes) :
    ∃ b, newCloseFrameBody c reason = some b ∧ b.length ≤ 125
      ∧ parseCloseFrameData b = (c, reason.take 123) := by
  refine ⟨_, newCloseFrameBody_eq c reason, ?_, parse_put c hc _⟩
  simp only [List.length_append, putU16, List.length_cons, List.length_nil, List.length_take]; omega

/-- A payload shorter than 2 bytes parses as "no code". -/
theorem parse_short (p : Bytes) (h : p.length < 2) : parseCloseFrameData p = (0, []) := by
  simp [parseCloseFrameData, h]

/-- PutCloseFrameBody does not panic when the buffer accommodates code and reason. -/
theorem put_no_fault (p : Bytes) (c : Nat) (r : Bytes) (h : 2 + r.length ≤ p.length) :
    (putCloseFrameBody p c r).isSome = true := by
  unfold putCloseFrameBody; rw [if_neg (by omega)]; rfl

-- A ping inside a fragmented message passes, a non-final ping does not; 2999 and a cut-off UTF-8
-- reason are refused.
example : checkHeader ⟨true, 0, 9, true, ⟨1, 2, 3, 4⟩, 125⟩ (stServer ||| stFragmented) = none := by decide
example : checkHeader ⟨false, 0, 9, true, ⟨1, 2, 3, 4⟩, 5⟩ stServer = some .controlNotFinal := by decide
example : checkCloseFrameData 1000 [0xC3, 0xA9] = none ∧ checkCloseFrameData 2999 [] = some .statusCodeUnknown
    ∧ checkCloseFrameData 4000 [0xC3] = some .invalidUTF8 := by decide

end Ws.C03
