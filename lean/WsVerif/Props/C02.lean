/-
  C02 — Payload masking equals the RFC 6455 §5.3 XOR for any offset and chunking.
  The lemmas about `xorFrom` and the word loop are in Proofs/Cipher.lean.
-/
import WsVerif.Proofs.Cipher
namespace Ws.C02
open Ws Ws.Spec

/-- ws.Cipher is the §5.3 XOR: byte i becomes payload[i] XOR key[(offset+i) mod 4] — for every
    length (the <8 byte loop, the head, every residue of the 16-byte unrolled loop, the tail),
    every offset (≥ 4 included) and every key; and it never panics. -/
theorem cipher_eq_spec (p : Bytes) (hp : Bytes.WF p) (m : Mask) (hm : m.WF) (off : Nat) :
    cipher p m off = some (xorSpec p m off) := by
  unfold cipher
  simp only
  by_cases h8 : p.length < 8
  · simp [h8, xorFrom_eq_spec]
  · simp only [h8, if_false]
    -- the code works from `off % 4`, and the key sees positions modulo 4 only
    rw [← xorFrom_eq_spec, xorFrom_congr m (Nat.mod_mod off 4).symm p]
    have hmp : off % 4 < 4 := Nat.mod_lt _ (by omega)
    generalize off % 4 = mpos at hmp ⊢
    obtain ⟨hln3, hal⟩ : remain mpos ≤ 3 ∧ (mpos + remain mpos) % 4 = 0 :=
      (by decide : ∀ k < 4, remain k ≤ 3 ∧ (k + remain k) % 4 = 0) mpos hmp
    generalize remain mpos = ln at hln3 hal
    -- after the head of `ln` bytes: `q` rounds of 16 bytes, then `rn < 16` bytes
    generalize hn : p.length = n at h8
    have hq := Nat.div_add_mod (n - ln) 16
    have hrn := Nat.mod_lt (n - ln) (show 0 < 16 by omega)
    generalize (n - ln) % 16 = rn at hq hrn ⊢
    generalize (n - ln) / 16 = q at hq
    have e1 : n - ln - rn = 16 * q := by rw [← hq, Nat.add_sub_cancel]
    have e2 : n - rn = ln + 16 * q := by omega
    rw [e1, e2, Nat.shiftRight_eq_div_pow, show 16 * q / 2 ^ 4 = q by omega,
      wordLoop_eq m hm q _ ((hp.drop ln).take _) (by rw [List.length_take, List.length_drop]; omega)
        (mpos + ln) hal,
      xorFrom_split m mpos ln p, xorFrom_split m (mpos + ln) (16 * q) (p.drop ln), List.drop_drop]
    simp only [List.append_assoc, Nat.add_assoc]

/-- Applying the §5.3 mask twice restores the input. -/
theorem xor_involutive (p : Bytes) (k : Mask) (off : Nat) :
    xorSpec (xorSpec p k off) k off = p := by
  rw [← xorFrom_eq_spec, ← xorFrom_eq_spec]
  induction p generalizing off with
  | nil => rfl
  | cons b bs ih =>
    simp only [xorFrom, ih]
    congr 1
    rw [Nat.xor_assoc, Nat.xor_self, Nat.xor_zero]

/-- The second of two pieces starts `a.length` key positions later. -/
theorem xor_append (a b : Bytes) (k : Mask) (off : Nat) :
    xorSpec (a ++ b) k off = xorSpec a k off ++ xorSpec b k (off + a.length) := by
  simp only [← xorFrom_eq_spec, xorFrom_append]

/-- Processing a payload as consecutive chunks with a running offset gives the same bytes as
    one call. -/
theorem xor_chunks (cs : List Bytes) (k : Mask) (off : Nat) :
    xorSpec cs.flatten k off
      = (cs.foldl (fun (acc : Bytes × Nat) c => (acc.1 ++ xorSpec c k acc.2, acc.2 + c.length)) ([], off)).1 := by
  suffices h : ∀ (pre : Bytes) (o : Nat),
      (cs.foldl (fun (acc : Bytes × Nat) c => (acc.1 ++ xorSpec c k acc.2, acc.2 + c.length)) (pre, o)).1
        = pre ++ xorSpec cs.flatten k o by
    rw [h]; simp
  induction cs with
  | nil => intro pre o; simp [xorSpec]
  | cons c cs ih =>
    intro pre o
    simp only [List.foldl_cons, List.flatten_cons, ih, xor_append, List.append_assoc]

/-- Drive a CipherReader with caller buffers of sizes `ks` until the list is exhausted or the
    source reports its end; returns the concatenated output. -/
def drainRd (c : CipherRd) (s : Src) : List Nat → Option (Bytes × CipherRd × Src)
  | [] => some ([], c, s)
  | k :: ks =>
    match c.read s k with
    | (none, _, _, _) => none
    | (some out, some _, c', s') => some (out, c', s')
    | (some out, none, c', s') =>
      match drainRd c' s' ks with
      | none => none
      | some (o2, c2, s2) => some (out ++ o2, c2, s2)

/-- wsutil.CipherReader produces exactly the §5.3 XOR of the bytes it consumed, for any transport
    chunking, any caller buffer sizes, and data arriving together with the end-of-stream error;
    its position advances by the bytes actually transferred. -/
theorem reader_any_chunking (ks : List Nat) (c : CipherRd) (hm : c.mask.WF) (s : Src)
    (hs : Bytes.WF s.bytes) :
    ∃ out c' s', drainRd c s ks = some (out, c', s') ∧
      ∃ consumed, consumed ++ s'.bytes = s.bytes ∧ out = xorSpec consumed c.mask c.pos
        ∧ c'.pos = c.pos + consumed.length ∧ c'.mask = c.mask := by
  induction ks generalizing c s with
  | nil => exact ⟨[], c, s, rfl, [], by simp, by simp [xorSpec], by simp, rfl⟩
  | cons k ks ih =>
    have hsplit := (s.read_conserve k).symm
    obtain ⟨hw1, hw2⟩ := Bytes.wf_append.mp (hsplit ▸ hs)
    simp only [drainRd, CipherRd.read]
    rcases hr : s.read k with ⟨got, e, s1⟩
    rw [hr] at hsplit hw1 hw2
    simp only at hsplit hw1 hw2
    simp only [cipher_eq_spec got hw1 c.mask hm c.pos]
    cases e with
    | some e =>
      exact ⟨_, _, _, rfl, got, hsplit, rfl, rfl, rfl⟩
    | none =>
      obtain ⟨o2, c2, s2, h2, cons2, hc2, ho2, hp2, hm2⟩ :=
        ih ⟨c.mask, c.pos + got.length⟩ hm s1 hw2
      simp only [h2]
      refine ⟨_, _, _, rfl, got ++ cons2, ?_, ?_, ?_, hm2⟩
      · rw [List.append_assoc, hc2, hsplit]
      · rw [xor_append, ho2]
      · simp only at hp2
        rw [hp2, List.length_append]; omega

/-- Drive a CipherWriter with writes `(p, n)`, the destination accepting `n` bytes of `p` (a short
    accept is an error and stops the writer's user). Returns what the destination received. -/
def drainWr (c : CipherWr) : List (Bytes × Nat) → Option (Bytes × CipherWr)
  | [] => some ([], c)
  | (p, n) :: rest =>
    match c.write p n with
    | (none, _, _) => none
    | (some sent, c', _) =>
      if n < p.length then some (sent, c')
      else match drainWr c' rest with
        | none => none
        | some (o2, c2) => some (sent ++ o2, c2)

/-- wsutil.CipherWriter never panics, and what the destination received (fully accepted writes
    followed by at most one short write) is an initial segment of the §5.3 XOR, from the writer's
    position, of the slices in order: of `given`, a prefix of their concatenation no shorter than
    the output. How long the output is, the statement does not say. -/
theorem writer_any_chunking (ws : List (Bytes × Nat)) (c : CipherWr) (hm : c.mask.WF)
    (hw : ∀ w ∈ ws, Bytes.WF w.1) :
    ∃ out c', drainWr c ws = some (out, c') ∧
      ∃ given, out = (xorSpec given c.mask c.pos).take out.length ∧ out.length ≤ given.length
        ∧ given <+: (ws.map (·.1)).flatten := by
  induction ws generalizing c with
  | nil => exact ⟨[], c, rfl, [], by simp [xorSpec], by simp, by simp⟩
  | cons w ws ih =>
    obtain ⟨p, n⟩ := w
    obtain ⟨hp, hws⟩ : Bytes.WF p ∧ ∀ w ∈ ws, Bytes.WF w.1 := List.forall_mem_cons.mp hw
    simp only [drainWr, CipherWr.write, cipher_eq_spec p hp c.mask hm c.pos, Option.map_some]
    by_cases hn : n < p.length
    · simp only [if_pos hn]
      refine ⟨_, _, rfl, p, ?_, ?_, ?_⟩
      · simp
      · rw [List.length_take, xorSpec_length]; omega
      · simp
    · simp only [if_neg hn]
      obtain ⟨o2, c2, h2, g2, e2, l2, pre2⟩ := ih ⟨c.mask, c.pos + min n p.length⟩ hm hws
      simp only [h2]
      have hmin : min n p.length = p.length := by omega
      have hl := xorSpec_length p c.mask c.pos
      have hfull : (xorSpec p c.mask c.pos).take n = xorSpec p c.mask c.pos :=
        List.take_of_length_le (by omega)
      refine ⟨_, _, rfl, p ++ g2, ?_, ?_, ?_⟩
      · rw [hfull, xor_append, List.length_append, List.take_append, hl, List.take_of_length_le (by omega)]
        congr 1
        simp only [hmin] at e2
        rw [Nat.add_sub_cancel_left]; exact e2
      · simp only [hfull, List.length_append]
        omega
      · simp only [List.map_cons, List.flatten_cons]
        exact (List.prefix_append_right_inj p).mpr pre2

/-- MaskFrameWith / MaskFrameInPlaceWith: Masked and Mask set, payload = §5.3 XOR at offset 0;
    the copying variant leaves the caller's bytes unmodified, the in-place one rewrites them. -/
theorem maskFrame_fields (f : Frame) (hp : Bytes.WF f.payload) (m : Mask) (hm : m.WF) :
    maskFrameWith f m = some (⟨{ f.header with masked := true, mask := m }, xorSpec f.payload m 0⟩, f.payload)
    ∧ maskFrameInPlaceWith f m
        = some (⟨{ f.header with masked := true, mask := m }, xorSpec f.payload m 0⟩, xorSpec f.payload m 0) := by
  simp [maskFrameWith, maskFrameInPlaceWith, cipher_eq_spec f.payload hp m hm 0]

/-- UnmaskFrame / UnmaskFrameInPlace: Masked and Mask cleared (for every key, the all-zero key
    included), payload = §5.3 XOR with the header's key; the copying variant leaves the caller's
    bytes unmodified. -/
theorem unmaskFrame_fields (f : Frame) (hp : Bytes.WF f.payload) (hm : f.header.mask.WF) :
    unmaskFrame f = some (⟨{ f.header with masked := false, mask := Mask.zero },
                           xorSpec f.payload f.header.mask 0⟩, f.payload)
    ∧ unmaskFrameInPlace f = some (⟨{ f.header with masked := false, mask := Mask.zero },
                           xorSpec f.payload f.header.mask 0⟩, xorSpec f.payload f.header.mask 0) := by
  simp [unmaskFrame, unmaskFrameInPlace, cipher_eq_spec f.payload hp f.header.mask hm 0]

/-- ws.UnmaskFrame after ws.MaskFrameWith gives back the payload. -/
theorem mask_unmask (f : Frame) (hp : Bytes.WF f.payload) (m : Mask) (hm : m.WF) :
    ∃ g, (maskFrameWith f m).map (·.1) = some g ∧
      (unmaskFrame g).map (·.1.payload) = some f.payload := by
  have hx : Bytes.WF (xorSpec f.payload m 0) := by
    rw [← xorFrom_eq_spec]; exact xorFrom_wf hm 0 hp
  refine ⟨_, by rw [(maskFrame_fields f hp m hm).1]; rfl, ?_⟩
  rw [(unmaskFrame_fields _ hx hm).1]
  simp [xor_involutive]

-- A 21-byte payload at offset 6 goes through the head (2), one 16-byte round and the tail (3).
example : cipher (List.range 21) ⟨1, 2, 3, 4⟩ 6
    = some (xorSpec (List.range 21) ⟨1, 2, 3, 4⟩ 6) := by decide +kernel
example : (cipher (List.range 21) ⟨1, 2, 3, 4⟩ 6).map (·.take 4) = some [3, 5, 3, 1] := by decide

end Ws.C02
