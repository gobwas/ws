/-
  C09 / C10 — "the header's comma list names the token": `btsHasToken` (which stops scanning at the
  first match) is true exactly when some element of the list, as the tokenizer splits it, equals
  the token ASCII-case-insensitively — wherever it stands, whatever the length of the elements
  around it.
-/
-- nothing of Props/C09 is used here; the import is there because both files derive the equations of `scanTokens.go`
-- (`fun_induction`), and two modules that derive them apart cannot be imported together
import WsVerif.Props.C09
namespace Ws.C09
open Ws Ws.Lex

/-- `btsHasToken`'s verdict on the tokens its scan collected: whether the last one (where the scan stopped,
    if it did) matches. -/
def lastSat (p : Bytes → Bool) (ts : List Bytes) : Bool :=
  match ts.getLast? with
  | some t => p t
  | none => false

theorem lastSat_reverse_of_none (p : Bytes → Bool) {acc : List Bytes} (h : ∀ t ∈ acc, p t = false) :
    lastSat p acc.reverse = acc.reverse.any p := by
  rw [List.any_reverse, List.any_eq_false.mpr fun x hx => by simp [h x hx], lastSat]
  cases acc with
  | nil => rfl
  | cons a as => simp [h a List.mem_cons_self]

theorem scanTokens_go_mem_acc {cont : Bytes → Bool} {fuel : Nat} {l : Scanner} {ok : Bool} {acc : List Bytes} :
    ∀ x ∈ acc, x ∈ (scanTokens.go cont fuel l ok acc).1 := by
  -- a token the callback continues on (3) or stops at (4), a comma (5); every other way out returns what was collected
  fun_induction scanTokens.go cont fuel l ok acc
  case case3 ih => exact fun x hx => ih x (List.mem_cons_of_mem _ hx)
  case case4 => exact fun x hx => List.mem_reverse.mpr (List.mem_cons_of_mem _ hx)
  case case5 ih => exact ih
  all_goals exact fun x hx => List.mem_reverse.mpr hx

theorem scanTokens_go_stop_eq_any (p : Bytes → Bool) (fuel : Nat) (l : Scanner) (ok : Bool) (acc : List Bytes)
    (hacc : ∀ t ∈ acc, p t = false) :
    lastSat p (scanTokens.go (fun v => !p v) fuel l ok acc).1 = (scanTokens.go (fun _ => true) fuel l ok acc).1.any p := by
  -- The induction follows the stopping scan; the other takes the same step on the same item.
  -- out of fuel (1); a token that does not match (3), one that does (4); a comma (5), another separator (6);
  -- the end of the input or anything else
  fun_induction scanTokens.go (fun v => !p v) fuel l ok acc
  case case1 => exact lastSat_reverse_of_none p hacc
  case case3 t _ hn hp ih =>
    simp only [scanTokens.go, hn, if_true]
    exact ih (List.forall_mem_cons.mpr ⟨by simpa using hp, hacc⟩)
  case case4 t l' hn hp =>
    simp only [scanTokens.go, hn, if_true]
    have hp : p t = true := by simpa using hp
    rw [List.any_eq_true.mpr ⟨t, scanTokens_go_mem_acc t List.mem_cons_self, hp⟩]
    simp [lastSat, hp]
  case case5 hn hc ih => simp only [scanTokens.go, hn, if_pos hc]; exact ih hacc
  case case6 hn hc => simp only [scanTokens.go, hn, if_neg hc]; exact lastSat_reverse_of_none p hacc
  all_goals simp only [scanTokens.go, ‹Scanner.next _ = _›]; exact lastSat_reverse_of_none p hacc

/-- util.go:btsHasToken, whose scan stops at the first match, says whether some element of the header's
    comma list, as httphead.ScanTokens splits it, equals the token ASCII-case-insensitively. -/
theorem hasToken_iff_any (header token : Bytes) :
    btsHasToken header token = (scanTokens header (fun _ => true)).1.any (fun t => equalFold t token) := by
  unfold btsHasToken scanTokens
  have := scanTokens_go_stop_eq_any (fun t => equalFold t token) (header.length + 2) { rest := header } false [] (by simp)
  simp only [lastSat] at this
  exact this

/-- List elements of the token's own length (`Trailer`, `X-Trace`: 7 bytes) before the token, after it, and
    without it. -/
example : btsHasToken (strBytes "Trailer, Upgrade") (strBytes "upgrade") = true
        ∧ btsHasToken (strBytes "Upgrade, Trailer") (strBytes "upgrade") = true
        ∧ btsHasToken (strBytes "Trailer, X-Trace") (strBytes "upgrade") = false := by
  decide +kernel

end Ws.C09
