/-
  C11 — Handshake outcome is shared by both peers and independent of transport chunking.

  Here: byte conservation on the server side (the client side is `C10.rest_preserved`; both rest on
  `readLine_all`, which holds for every chunking of the transport and every buffer size), and the agreement of
  the two peers on the base handshake at the level of parsed lines (`pair_lines`). That the parsed lines —
  and with them the whole outcome on either side — are a function of the flat byte stream alone is
  Props/C11Flat.lean (from `readLine_spec`).
-/
import WsVerif.Props.C09
import WsVerif.Props.C10
namespace Ws.C11
open Ws

def loopBuf : Sum (Fin × Bufio × UpState) (UpState × Option HsErr × Bufio) → Bufio
  | .inl (_, b', _) => b'
  | .inr (_, _, b') => b'

theorem hdrLoop_suffix {cfg : UpCfg} {fuel : Nat} {b : Bufio} {st : UpState} {err : Option HsErr}
    {r : Sum (Fin × Bufio × UpState) (UpState × Option HsErr × Bufio)} (h : hdrLoop cfg fuel b st err = r) :
    (loopBuf r).all <:+ b.all := by
  subst h
  -- (the ways through one round: see `C09.hdrLoop_history`) no fuel, or entered with an error: nothing is read;
  -- a header line: one line is read, then the rest of the loop; every other way: one line is read
  fun_induction hdrLoop cfg fuel b st err
  case case1 | case2 => exact List.suffix_refl _
  case case6 ih => exact ih.trans (readLine_suffix ‹_›)
  all_goals exact readLine_suffix ‹_›

/-- Byte conservation in the server's header loop (`hdrLoop_suffix` with the bytes consumed named): however
    the loop ends, nothing its reader held is lost or reordered. -/
theorem hdrLoop_conserve (cfg : UpCfg) (fuel : Nat) (b : Bufio) (st : UpState) (err : Option HsErr) :
    ∃ consumed, b.all = consumed ++ (loopBuf (hdrLoop cfg fuel b st err)).all :=
  (hdrLoop_suffix rfl).imp fun _ => Eq.symm

/-- Whatever the outcome, chunking and buffer size, what Upgrader.Upgrade leaves readable (its
    buffer, then the connection) is a suffix of the bytes the client sent. -/
theorem upgrade_consumes_prefix (cfg : UpCfg) (src : Src) :
    ∃ head, src.bytes = head ++ (upgrade cfg src).2.2.2.all := by
  suffices h : (upgrade cfg src).2.2.2.all <:+ src.bytes from h.imp fun _ => Eq.symm
  -- the request line cut short or unparsable: one line was read; otherwise the loop ran as well
  fun_cases upgrade cfg src
  case case1 | case2 => exact readLine_suffix ‹_›
  all_goals
    have h := hdrLoop_suffix ‹hdrLoop _ _ _ _ _ = _›
    exact h.trans (readLine_suffix ‹_›)

theorem sha1_length (m : Bytes) : (Spec.sha1 m).length = 20 := by
  unfold Spec.sha1
  simp only
  generalize (List.foldl Spec.sha1Block _ _) = r
  obtain ⟨a, b, c, d, e⟩ := r
  simp [Spec.toBe32]

/-- RFC 4648 §4 with padding: four characters for every three bytes or part thereof. -/
theorem base64_length (l : Bytes) : (Spec.base64 l).length = 4 * ((l.length + 2) / 3) := by
  -- three bytes or more; two, one, none
  fun_induction Spec.base64 l with
  | case1 a b c rest ih => simp only [List.length_append, List.length_cons, List.length_nil, ih]; omega
  | case2 | case3 | case4 => simp only [List.length_cons, List.length_nil]

theorem acceptOf_length (key : Bytes) : (Spec.acceptOf key).length = 28 := by
  rw [Spec.acceptOf, base64_length, sha1_length]

/-- The header lines httpWriteUpgradeRequest emits (canonical names), without the optional ones. -/
def clientLines (host nonce : Bytes) : List (Bytes × Bytes) :=
  [(C09.kHost, host), (C09.kUpgrade, strBytes "websocket"), (C09.kConnection, strBytes "Upgrade"),
   (C09.kVersion, strBytes "13"), (C09.kKey, nonce)]

/-- The header lines httpWriteResponseUpgrade emits for a handshake without subprotocol and
    extensions. -/
def serverLines (nonce : Bytes) : List (Bytes × Bytes) :=
  [(C10.kUpgrade, strBytes "websocket"), (C10.kConnection, strBytes "Upgrade"), (C10.kAccept, Spec.acceptOf nonce)]

/-- The two peers agree on the base handshake, at the level of parsed lines: for every server configuration
    whose callbacks do not object and every client configuration, the dialer's header lines pass the
    upgrader, the key it keeps is the dialer's nonce, the decision is "write the 101", and the
    lines of that 101 pass the dialer with all three mandatory headers seen. -/
theorem pair_lines (ucfg : UpCfg) (dcfg : DialCfg) (host nonce : Bytes) (hn : nonce.length = 24)
    (h1 : ucfg.onRequest = none) (h2 : ucfg.onHost = none) (h3 : ucfg.onHeader = none) (h4 : ucfg.onBeforeUpgrade = none) :
    upRequestLine ucfg (strBytes "GET") 1 1 = none ∧
    ∃ st, C09.runHeaders ucfg (clientLines host nonce) {} = (st, none) ∧ upFinish ucfg st none = (none, [])
      ∧ st.nonce = nonce ∧ st.hs = {}
      ∧ C10.runDl dcfg nonce (serverLines st.nonce) {} 0 = ({}, 7, none) ∧ dlFinish 7 = none := by
  have e : equalFold (strBytes "websocket") (strBytes "websocket") = true := by decide +kernel
  have run : C09.runHeaders ucfg (clientLines host nonce) {} = ({ seen := seenAll, nonce := nonce }, none) := by
    rw [clientLines, C09.runHeaders_cons_ok (by rw [C09.upHeader_host, h2]),
      C09.runHeaders_cons_ok (by rw [C09.upHeader_upgrade, if_pos e]),
      C09.runHeaders_cons_ok (by rw [C09.upHeader_connection, if_pos (by simp)]),
      C09.runHeaders_cons_ok (by rw [C09.upHeader_version, if_pos rfl]),
      C09.runHeaders_cons_ok (by rw [C09.upHeader_key, if_neg (not_not_intro hn)])]
    rfl
  refine ⟨(C09.upRequestLine_eq_none_iff ..).mpr ⟨rfl, ⟨rfl, Nat.le_refl 1⟩, h1⟩, _, run, ?_, rfl, rfl, ?_, by decide⟩
  · simp [upFinish, h4]
  · have e' : equalFold (strBytes "Upgrade") (strBytes "Upgrade") = true := by decide +kernel
    rw [serverLines, C10.runDl_cons_ok (by rw [C10.dlHeader_upgrade, if_pos e]),
      C10.runDl_cons_ok (by rw [C10.dlHeader_connection, if_pos e']),
      C10.runDl_cons_ok (by rw [C10.dlHeader_accept, if_pos ⟨acceptOf_length nonce, rfl⟩])]
    rfl

end Ws.C11
