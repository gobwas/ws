/-
  C16 / C08 — `wsutil.ControlFrameHandler` never turns a control frame that was cut short into a clean end. The
  three theorems are facts of Proofs/HandlerEof: `ctlHandler_ne` (what the text simulation needs of the handler) and
  the two steps it rests on, `pull_eof_nonempty` and `cipher_ne_nil`.
-/
import WsVerif.Proofs.HandlerEof
namespace Ws.C16
open Ws Ws.Spec Ws.RdProof Ws.RdBin

/-- Handed a control frame's payload through the frame stack (`rawN` = the announced length), whatever the transport
    does — ends early, fails, delivers in any chunks — the handler's error is never io.EOF (which from an
    OnIntermediate handler would make Reader.Read report the end of the message). No well-formedness assumption on
    the bytes. -/
theorem control_handler_never_eof (client : Bool) (errText : ProtoErr → Bytes) (h : Header) (r : Rd) (s : Src) (cx : Ctx)
    (hoff : r.utf8on = false) (hraw : r.rawN = h.len) :
    (controlFrameHandler client errText false none h r s cx).err ≠ some .eof :=
  ctlHandler_ne client errText h r s cx hoff hraw

/-- reading a frame to its clean end has delivered bytes unless the frame was empty -/
theorem clean_end_means_bytes (k fuel : Nat) (r : Rd) (s : Src) (cx : Ctx) (hoff : r.utf8on = false) (hn : r.rawN ≠ 0)
    (h : (Rd.pull false k none fuel r s cx []).2.1 = .eof) : (Rd.pull false k none fuel r s cx []).1.flatten ≠ [] := by
  obtain ⟨c, hc, hne⟩ := pull_eof_nonempty k fuel r s cx [] hoff (Or.inl hn) h
  intro hf
  exact hne (List.flatten_eq_nil_iff.mp hf c hc)

/-- ws.Cipher maps a non-empty payload to a non-empty payload whenever it does not panic -/
theorem cipher_keeps_nonempty (p : Bytes) (m : Mask) (off : Nat) (q : Bytes) (h : cipher p m off = some q) (hp : p ≠ []) : q ≠ [] :=
  cipher_ne_nil p m off q h hp

end Ws.C16
