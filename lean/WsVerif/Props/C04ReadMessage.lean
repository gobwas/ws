/-
  C04 / C07 / C05 / C16 — `wsutil.ReadMessage` on an unfragmented message, for every chunking of the transport: the
  helper's loop make([]byte, Length) + io.ReadFull over the message reader (`readMessage.fill`). io.ReadFull drops
  an error that comes with the bytes that fill its buffer, so for a text message the proof needs that the checking
  reader reports fewer bytes than the buffer still has room for whenever it reports ErrInvalidUTF8 (`SimOut`'s count
  bound, Proofs/ReaderText): that error is never dropped.
-/
import WsVerif.Props.C04Idle
import WsVerif.Props.C05
namespace Ws.C04
open Ws Ws.Spec Ws.RdProof

/-- The io.ReadFull loop of ReadMessage inside the (final, only) frame of a message. -/
theorem fill_final (collect : Callback) (h : Header) (fuel : Nat) :
    ∀ (r : Rd) (s : Src) (cx : Ctx) (acc wire rest : Bytes),
      InFrame r s wire rest → r.fragmented = false → (r.checkUTF8 = false ∨ r.utf8.valid = true) →
      acc.length + wire.length = h.len → mu s + 1 < fuel →
      ∃ s', readMessage.fill collect h fuel r s cx acc = (acc ++ plainOf r wire, none, s', cx) ∧ s'.bytes = rest := by
  induction fuel with
  | zero => intro r s cx acc wire rest _ _ _ _ hf; omega
  | succ n ih =>
    intro r s cx acc wire rest hin hnf hv hlen hf
    rw [readMessage.fill]
    by_cases hdone : acc.length ≥ h.len
    · have hw : wire = [] := List.length_eq_zero_iff.mp (by omega)
      subst hw
      simp only [hdone, if_true]
      exact ⟨s, by simp [plainOf, xorSpec], by simpa using hin.bytes⟩
    · simp only [hdone, if_false]
      obtain ⟨g, s1, ⟨_, hread, hin', hnf', hv', hmu, hsplit, hg⟩ | ⟨_, hread, hb1, _⟩⟩ :=
        read_final r s cx (some collect) wire rest (h.len - acc.length) hin (by omega) hnf hv
      · simp only [hread]
        rw [List.take_of_length_le (Nat.le_of_eq hg.symm)]
        obtain ⟨s', hfill, hb'⟩ := ih (adv r g) s1 cx (acc ++ plainOf r (wire.take g)) (wire.drop g) rest hin' hnf' hv'
          (by simp [← hg]; omega) (by omega)
        exact ⟨s', by rw [hfill, List.append_assoc, hsplit], hb'⟩
      · -- io.ReadFull: the buffer is full, the io.EOF that came with the last bytes is dropped
        simp only [hread]
        rw [List.take_of_length_le (Nat.le_of_eq (plainOf_length r wire))]
        have hfull : (acc ++ plainOf r wire).length ≥ h.len := by simp [plainOf_length]; omega
        simp only [hfull, if_true]
        exact ⟨s1, rfl, hb1⟩

/-- C04: wsutil.ReadMessage on an unfragmented non-text data message returns exactly the frame's unmasked payload as
    one message with the frame's opcode and no error, and leaves the transport at the first byte after the frame.
    (A text message goes through the validating reader: `C07.readMessage_single_text`.) -/
theorem readMessage_single (state : Nat) (s : Src) (f : WFrame) (rest : Bytes)
    (hst : state < 256) (hnf : stIs state stFragmented = false)
    (hok : f.OK) (hfin : f.h.fin = true) (hdata : opIsControl f.h.op = false) (hnt : f.h.op ≠ opText)
    (hacc : checkHeader f.h state = none)
    (hb : s.bytes = f.enc ++ rest) (hwf : Bytes.WF s.bytes) (htame : Src.Tame s) :
    ∃ s', readMessage state s = ([(f.h.op, f.plain)], none, s') ∧ s'.bytes = rest := by
  have hi := idle_init state
  obtain ⟨s1, hnext, _, hin⟩ := hi.nextFrame hnf hok hacc hb hwf htame {} (some collectCb)
  obtain ⟨s', hfill, hb'⟩ := fill_final collectCb f.h (pullFuel s1) _ s1 {} [] f.wire rest (hin hnt)
    (hi.enter_final hst hnf hfin).2 (hi.valid_enter f.h) (by simp [hok.len]) (pullFuel_gt s1)
  refine ⟨s', ?_, hb'⟩
  unfold readMessage
  simp only [hnext, hfin, if_true, hfill]
  simp [WFrame.plain_enter]

/-- A masked final binary frame "ab" read by a server-side ReadMessage off three chunks, one byte of the next frame
    behind it. -/
example :
    let f : WFrame := ⟨⟨true, 0, 2, true, ⟨1, 2, 3, 4⟩, 2⟩, [0x60, 0x60]⟩
    f.OK ∧ checkHeader f.h 1 = none ∧
    readMessage 1 { chunks := [[0x82], [0x82, 1, 2, 3], [4, 0x60, 0x60, 0x89]], fin := .eof }
      = ([(2, [0x61, 0x62])], none, { chunks := [[0x89]], fin := .eof }) := by
  refine ⟨⟨by decide, by decide, by decide, by decide⟩, by decide, by decide⟩

end Ws.C04

namespace Ws.C07
open Ws Ws.Spec Ws.RdProof Ws.RdText

/-- One Read of the checking reader inside the last frame of a text message, `σ` the Table 3-7 position the text has
    reached: what the non-checking reader does (`read_final`) while the text stays in the table and, if this Read
    ends it, ends on a character boundary; otherwise ErrInvalidUTF8, with fewer bytes reported than the frame still
    holds (`SimOut`'s count bound). -/
theorem read_final_text (σ : U8) (r : Rd) (s : Src) (cx : Ctx) (cb : Option Callback) (wire rest : Bytes) (k : Nat)
    (htm : TM σ r) (hnf : r.fragmented = false) (hin : InFrame (strip r) s wire rest) (hk : 0 < k) (hpos : 0 < wire.length) :
    ∃ g s1,
      (g < wire.length ∧ ∃ r', r.read s cx k cb = some (plainOf r (wire.take g), g, none, r', s1, cx)
        ∧ TM (u8Run σ (plainOf r (wire.take g))) r' ∧ r'.fragmented = false ∧ InFrame (strip r') s1 (wire.drop g) rest
        ∧ mu s1 < mu s ∧ plainOf r (wire.take g) ++ plainOf r' (wire.drop g) = plainOf r wire)
      ∨ (u8Run σ (plainOf r wire) = .acc
        ∧ ∃ r', r.read s cx k cb = some (plainOf r wire, wire.length, some .eof, r', s1, cx) ∧ s1.bytes = rest)
      ∨ (u8Run σ (plainOf r wire) ≠ .acc ∧ ∃ b m r', r.read s cx k cb = some (b, m, some .utf8, r', s1, cx) ∧ m < wire.length) := by
  have hwwf : Bytes.WF wire := wf_append_left (hin.bytes ▸ hin.wf)
  obtain ⟨g, s1, hcase⟩ := read_final (strip r) s cx cb wire rest k hin hk hnf (Or.inl rfl)
  -- inside a frame Read is its second half, on which the checking reader is simulated by the non-checking one
  rw [read_has_cb (strip r) s cx k cb hin.has] at hcase
  rw [read_has_cb r s cx k cb hin.has]
  refine ⟨g, s1, ?_⟩
  rcases hcase with ⟨hlt, hread, hin', hnf', _, hmu, hsplit, _⟩ | ⟨rfl, hread, hb1, _⟩
  · obtain ⟨_, ⟨_, _, r', a3, a4, a5⟩ | ⟨a1, m, r', a3, hm, _⟩⟩ :=
      tail_sim htm hin.has hread (plainOf_wf (strip r) hin.mwf _ (hwwf.take g))
    · exact Or.inl ⟨hlt, r', a3, a5 rfl, (strip_fragmented r').symm.trans (a4 ▸ hnf'), a4 ▸ hin', hmu,
        (show plainOf r (wire.take g) ++ plainOf (strip r') (wire.drop g) = plainOf r wire by rw [a4]; exact hsplit)⟩
    · -- the text leaves the table inside this Read
      refine Or.inr (Or.inr ⟨fun hacc => ?_, _, m, r', a3, by rw [plainOf_length, List.length_take] at hm; omega⟩)
      have hrej : u8Run σ (plainOf r (wire.take g)) = .rej := a1.resolve_right fun h => h.1 rfl
      rw [← show plainOf r (wire.take g) ++ _ = plainOf r wire from hsplit, u8Run_append, hrej, u8Run_rej] at hacc
      cases hacc
  · obtain ⟨_, ⟨_, a2, r', a3, _, _⟩ | ⟨a1, m, r', a3, _, hm⟩⟩ :=
      tail_sim htm hin.has hread (plainOf_wf (strip r) hin.mwf _ hwwf)
    · exact Or.inr (Or.inl ⟨a2 rfl, r', a3, hb1⟩)
    · -- … or ends inside a character
      refine Or.inr (Or.inr ⟨fun hacc => ?_, _, m, r', a3, ?_⟩)
      · rcases a1 with a1 | ⟨_, a1⟩
        · rw [show plainOf (strip r) wire = plainOf r wire from rfl, hacc] at a1; cases a1
        · exact a1 hacc
      · have := hm fun hd => by rw [← List.length_eq_zero_iff, plainOf_length] at hd; omega
        rwa [plainOf_length] at this

/-- The io.ReadFull loop of ReadMessage inside the only frame of a text message, checking on. -/
theorem fill_final_text (collect : Callback) (h : Header) (fuel : Nat) :
    ∀ (σ : U8) (r : Rd) (s : Src) (cx : Ctx) (acc wire rest : Bytes),
      TM σ r → r.hasFrame = true → r.fragmented = false → InFrame (strip r) s wire rest →
      acc.length + wire.length = h.len → (wire = [] → σ = .acc) → mu s + 1 < fuel →
      (u8Run σ (plainOf r wire) = .acc →
          ∃ s', readMessage.fill collect h fuel r s cx acc = (acc ++ plainOf r wire, none, s', cx) ∧ s'.bytes = rest)
      ∧ (u8Run σ (plainOf r wire) ≠ .acc →
          ∃ p s' cx', readMessage.fill collect h fuel r s cx acc = (p, some .utf8, s', cx')) := by
  induction fuel with
  | zero => intro σ r s cx acc wire rest _ _ _ _ _ _ hf; omega
  | succ n ih =>
    intro σ r s cx acc wire rest htm _ hnf hin hlen hempty hf
    rw [readMessage.fill]
    by_cases hdone : acc.length ≥ h.len
    · -- an empty frame: nothing to read, nothing to object to
      have hw : wire = [] := List.length_eq_zero_iff.mp (by omega)
      subst hw
      simp only [hdone, if_true]
      refine ⟨fun _ => ⟨s, by simp [plainOf, xorSpec], by simpa using hin.bytes⟩, fun hna => absurd ?_ hna⟩
      rw [hempty rfl, plainOf_nil]
      rfl
    · simp only [hdone, if_false]
      obtain ⟨g, s1, ⟨hlt, r', hread, htm', hnf', hin', hmu, hsplit⟩ | ⟨hacc, r', hread, hb1⟩ | ⟨hna, b, m, r', hread, hm⟩⟩ :=
        read_final_text σ r s cx (some collect) wire rest (h.len - acc.length) htm hnf hin (by omega) (by omega)
      · have hg : (plainOf r (wire.take g)).length = g := by rw [plainOf_length, List.length_take]; omega
        simp only [hread, List.take_of_length_le (Nat.le_of_eq hg)]
        have hih := ih (u8Run σ (plainOf r (wire.take g))) r' s1 cx (acc ++ plainOf r (wire.take g)) (wire.drop g) rest
          htm' hin'.has hnf' hin' (by simp [hg]; omega) (fun hd => by have := congrArg List.length hd; simp at this; omega) (by omega)
        rw [← u8Run_append, hsplit] at hih
        exact ⟨fun hacc => (hih.1 hacc).imp fun s' hs' => ⟨by rw [hs'.1, List.append_assoc, hsplit], hs'.2⟩, hih.2⟩
      · -- the last bytes, the text complete: the buffer is full, io.ReadFull drops the io.EOF that came with them
        have hfull : (acc ++ plainOf r wire).length ≥ h.len := by simp [plainOf_length]; omega
        simp only [hread, List.take_of_length_le (Nat.le_of_eq (plainOf_length r wire)), if_pos hfull]
        exact ⟨fun _ => ⟨s1, rfl, hb1⟩, fun hna => absurd hacc hna⟩
      · -- ErrInvalidUTF8 comes with fewer bytes than the buffer has room for, so io.ReadFull reports it
        have hshort : ¬ (acc ++ b.take m).length ≥ h.len := by simp; omega
        simp only [hread, if_neg hshort]
        exact ⟨fun hacc => absurd hacc hna, fun _ => ⟨acc ++ b.take m, s1, cx, by simp⟩⟩

/-- C07: wsutil.ReadMessage on an unfragmented text message delivers it, as one text message and with no error, iff the
    payload is well-formed UTF-8 (Table 3-7); otherwise the error is ErrInvalidUTF8 — never nil, whatever the
    chunking of the transport (and so whichever Read happens to fill io.ReadFull's buffer). -/
theorem readMessage_single_text (state : Nat) (s : Src) (f : WFrame) (rest : Bytes)
    (hst : state < 256) (hnf : stIs state stFragmented = false)
    (hok : f.OK) (hfin : f.h.fin = true) (htext : f.h.op = opText)
    (hacc : checkHeader f.h state = none)
    (hb : s.bytes = f.enc ++ rest) (hwf : Bytes.WF s.bytes) (htame : Src.Tame s) :
    (wfUtf8 f.plain = true → ∃ s', readMessage state s = ([(opText, f.plain)], none, s') ∧ s'.bytes = rest)
    ∧ (wfUtf8 f.plain = false → (readMessage state s).2.1 = some .utf8) := by
  have hi := C04.idle_init state
  obtain ⟨s1, hnext, hin, _⟩ := hi.nextFrame hnf hok hacc hb hwf htame {} (some collectCb)
  have hfill := fill_final_text collectCb f.h (pullFuel s1) .acc _ s1 {} [] f.wire rest (hi.tm_enter hnf htext) (by simp [enter])
    (hi.enter_final hst hnf hfin).2 hin (by simp [hok.len]) (fun _ => rfl) (pullFuel_gt s1)
  rw [WFrame.plain_enter] at hfill
  constructor
  · intro hgood
    obtain ⟨s', hf, hb'⟩ := hfill.1 (by simpa [wfUtf8] using hgood)
    refine ⟨s', ?_, hb'⟩
    unfold readMessage
    simp only [hnext, hfin, if_true, hf, htext]
    simp
  · intro hbad
    obtain ⟨p, s', cx', hf⟩ := hfill.2 (by intro h; simp [wfUtf8, h] at hbad)
    unfold readMessage
    simp only [hnext, hfin, if_true, hf]

/-- "é" (C3 A9) and a lone C3, masked, read by a server-side ReadMessage off two chunks. -/
example :
    readMessage 1 { chunks := [[0x81, 0x82, 0, 0], [0, 0, 0xc3, 0xa9, 0x88]], fin := .eof }
      = ([(1, [0xc3, 0xa9])], none, { chunks := [[0x88]], fin := .eof })
    ∧ (readMessage 1 { chunks := [[0x81, 0x81, 0, 0], [0, 0, 0xc3, 0x88]], fin := .eof }).2.1 = some .utf8 := by
  constructor <;> decide

end Ws.C07

namespace Ws.C16
open Ws Ws.Spec Ws.RdProof Ws.RdText Ws.C04

/-- the make + io.ReadFull loop over a cut frame -/
theorem fill_cut (collect : Callback) (h : Header) (fuel : Nat) :
    ∀ (r : Rd) (s : Src) (cx : Ctx) (acc : Bytes), CutFrame r s → acc.length + r.rawN = h.len → mu s + 1 < fuel →
      ∃ p e s', readMessage.fill collect h fuel r s cx acc = (p, some e, s', cx)
        ∧ ((e = .ueof ∧ s.fin = .eof) ∨ (e = .fail ∧ s.fin = .fail)) := by
  induction fuel with
  | zero => intro r s cx acc _ _ hf; omega
  | succ n ih =>
    intro r s cx acc hc hlen hf
    have hshort := hc.short
    obtain ⟨got, e, s1, hread, hsplit, hfin, hcase⟩ := read_cut r s cx (some collect) (h.len - acc.length) hc (by omega)
    have hgl : got.length ≤ s.bytes.length := by rw [← hsplit]; simp
    rw [readMessage.fill]
    simp only [show ¬ acc.length ≥ h.len by omega, if_false, hread,
      List.take_of_length_le (Nat.le_of_eq (plainOf_length r got))]
    -- the buffer cannot fill: the transport holds less than the frame announces
    have hnot : ¬ (acc ++ plainOf r got).length ≥ h.len := by simp [plainOf_length]; omega
    rcases hcase with ⟨rfl, hmu, hc1⟩ | ⟨rfl, hfe⟩ | ⟨rfl, hfe⟩
    · obtain ⟨p, e2, s', hf2, hc2⟩ := ih (adv r got.length) s1 cx (acc ++ plainOf r got) hc1
        (by simp [adv, plainOf_length]; omega) (by omega)
      exact ⟨p, e2, s', hf2, hfin ▸ hc2⟩
    · simp only [hnot, if_false]
      exact ⟨acc ++ plainOf r got, .ueof, s1, by simp, Or.inl ⟨rfl, hfe⟩⟩
    · simp only [hnot, if_false]
      exact ⟨acc ++ plainOf r got, .fail, s1, by simp, Or.inr ⟨rfl, hfe⟩⟩

/-- C16: wsutil.ReadMessage never returns a cut message (unfragmented, not text): nothing is appended and the error is
    io.ErrUnexpectedEOF or the transport's failure. -/
theorem readMessage_cut_never_succeeds (state : Nat) (s : Src) (h : Header) (part : Bytes)
    (hnf : stIs state stFragmented = false)
    (hhwf : h.WF) (hfin : h.fin = true) (hdata : opIsControl h.op = false) (hnt : h.op ≠ opText)
    (hacc : checkHeader h state = none)
    (hcut : part.length < h.len)
    (hb : s.bytes = rfcEncode h ++ part) (hwf : Bytes.WF s.bytes) (htame : Src.Tame s) :
    ((readMessage state s).2.1 = some .ueof ∨ (readMessage state s).2.1 = some .fail) ∧ (readMessage state s).1 = [] := by
  have hi := idle_init state
  obtain ⟨s1, hnext, hc1, _⟩ := hi.nextFrame_cut hnf hhwf hnt hacc hcut hb hwf htame {} (some collectCb)
  obtain ⟨p, e, s2, hF, hc2⟩ := fill_cut collectCb h (pullFuel s1) _ s1 {} [] hc1 (by simp [enter]) (pullFuel_gt s1)
  unfold readMessage
  simp only [hnext, hfin, if_true, hF]
  rcases hc2 with ⟨rfl, _⟩ | ⟨rfl, _⟩ <;> simp

/-- C05: wsutil.ReadMessage reports an offending first frame: its protocol error, nothing appended, the transport right
    behind that header. -/
theorem readMessage_refuses_bad_frame (state : Nat) (s : Src) (h : Header) (junk : Bytes) (pe : ProtoErr)
    (hhwf : h.WF) (hbad : checkHeader h state = some pe)
    (hb : s.bytes = rfcEncode h ++ junk) (hwf : Bytes.WF s.bytes) (htame : Src.Tame s) :
    ∃ s1, readMessage state s = ([], some (.proto pe), s1) ∧ s1.bytes = junk := by
  obtain ⟨s1, hnext, hb1⟩ := C05.nextFrame_refuses ({ state, checkUTF8 := true } : Rd) s {} (some collectCb) h junk (.proto pe) hhwf hb
    hwf htame (Or.inl ⟨rfl, pe, hbad, rfl⟩)
  exact ⟨s1, by unfold readMessage; simp only [hnext], hb1⟩

end Ws.C16
