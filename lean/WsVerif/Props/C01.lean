/-
  C01 — Frame header codec is byte-exact per RFC 6455 §5.2 and its own inverse.
  The lemmas about the bit layout are in Proofs/Header.lean.
-/
import WsVerif.Proofs.Header
namespace Ws.C01
open Ws Ws.Spec

/-- ws.WriteHeader emits exactly the §5.2 layout (minimal length form). -/
theorem write_eq_rfc (h : Header) (hw : h.WF) : writeHeader h = .ok (rfcEncode h) := by
  obtain ⟨hr, ho, hl, _, _⟩ := hw
  unfold writeHeader rfcEncode
  simp only [b0_encode h.fin _ hr _ ho]
  unfold len7 len16 len64 len7code lenExt
  by_cases h1 : h.len ≤ 125
  · have : h.len % 256 = h.len := by omega
    cases hm : h.masked <;> simp [h1, this, b2n]
    exact b1_mask _ (by omega)
  · by_cases h2 : h.len ≤ 65535
    · have e : h.len % 65536 = h.len := by omega
      cases hm : h.masked <;> simp [h1, h2, e, b2n, putU16, digitsBE, b1_mask]
    · have h3 : h.len ≤ 2 ^ 63 - 1 := by omega
      cases hm : h.masked <;> simp [h1, h2, h3, b2n, putU64, digitsBE, b1_mask]

/-- Minimal length form: 2, 4 or 10 bytes, plus 4 when masked. -/
theorem rfc_len (h : Header) : (rfcEncode h).length = rfcSize h := by
  unfold rfcEncode rfcSize lenExt
  by_cases h1 : h.len ≤ 125 <;> by_cases h2 : h.len ≤ 65535 <;> cases hm : h.masked <;>
    simp [h1, h2, digitsBE, Mask.toList]

/-- ws.HeaderSize reports the number of bytes ws.WriteHeader emits. -/
theorem headerSize_eq (h : Header) (hw : h.WF) : headerSize h = (rfcSize h : Int) := by
  obtain ⟨_, _, hl, _, _⟩ := hw
  unfold headerSize rfcSize len16 len64
  by_cases h1 : h.len ≤ 125
  · have : h.len < 126 := by omega
    cases hm : h.masked <;> simp [h1, this]
  · have h1' : ¬ h.len < 126 := by omega
    by_cases h2 : h.len ≤ 65535
    · cases hm : h.masked <;> simp [h1, h1', h2]
    · have h3 : h.len ≤ 2 ^ 63 - 1 := by omega
      cases hm : h.masked <;> simp [h1, h1', h2, h3]

/-- Spec-level round trip: decoding the encoding returns the header and its exact size,
    whatever follows it. -/
theorem decode_encode (h : Header) (hw : h.WF) (rest : Bytes) :
    rfcDecode (rfcEncode h ++ rest) = .ok h (rfcSize h) := by
  obtain ⟨hr, ho, hl, -, hz⟩ := hw
  obtain ⟨e1, e2, e3⟩ := b0_fields h.fin hr ho
  obtain ⟨e4, e5⟩ := b1_fields h.masked (len7code_lt h.len)
  have hv := lenExt_val h.len (by omega)
  unfold rfcEncode
  simp only [List.cons_append, List.nil_append, List.append_assoc]
  rw [rfcDecode_layout _ _ _ _ _ (by rw [e5]; exact lenExt_length h.len)
    (by rw [e4]; cases h.masked <;> rfl)]
  have hmsb : ¬ (len7code h.len = 127 ∧ beVal (lenExt h.len) ≥ 2 ^ 63) := by
    rintro ⟨h7, hge⟩; rw [h7, if_neg (by omega)] at hv; omega
  simp only [e1, e2, e3, e4, e5, hv, if_neg hmsb]
  have hsz : 2 + (lenExt h.len).length + (if h.masked = true then h.mask.toList else []).length = rfcSize h := by
    rw [← rfc_len]; simp [rfcEncode]; omega
  rw [hsz]
  obtain ⟨f, r, o, m, ⟨m0, m1, m2, m3⟩, len⟩ := h
  cases m
  · simp only [Bool.false_eq_true, if_false, (hz rfl).symm]
  · simp [Mask.toList]

/-- A decoder's result `res` on source `s` agrees with §5.2: on a complete header exactly the
    §5.2 fields, the source left right after the header; an error iff the header is incomplete or
    the 64-bit length has its top bit set. -/
def AgreesWithRfc (res : Except HdrErr Header × Src) (s : Src) : Prop :=
  match rfcDecode s.bytes with
  | .ok h k => res.1 = .ok h ∧ res.2.bytes = s.bytes.drop k ∧ res.2.fin = s.fin
  | .incomplete => ∃ e, res.1 = .error (.io e)
  | .msb => res.1 = .error .lengthMSB

/-- ws.ReadHeader agrees with §5.2 on every byte string and every chunking of it. -/
theorem readWs_decode (s : Src) (hs : Bytes.WF s.bytes) : AgreesWithRfc (readHeaderWs s) s := by
  unfold AgreesWithRfc
  match hb : s.bytes, hs with
  | [], _ | [_], _ =>
    obtain ⟨e, s', h1, _⟩ := s.readFull_err 2 (by simp [hb])
    simp [rfcDecode, readHeaderWs, h1]
  | b0 :: b1 :: rest, hs =>
    obtain ⟨s1, h1, hb1, hf1⟩ := s.readFull_ok 2 (by simp [hb])
    simp only [hb, List.take_succ_cons, List.take_zero, List.drop_succ_cons, List.drop_zero] at h1 hb1
    obtain ⟨h0, hs'⟩ := Bytes.wf_cons.mp hs
    obtain ⟨hb1', hr⟩ := Bytes.wf_cons.mp hs'
    obtain ⟨extra, he, hinc, hok⟩ := finish_decode b0 b1 rest h0 hb1' hr
    obtain ⟨hfull, hshort⟩ := readHeaderWs_second s s1 b0 b1 extra h1 he
    rw [hb1] at hfull hshort
    by_cases hlen : extra ≤ rest.length
    · obtain ⟨s2, h2, hb2, hf2⟩ := hfull hlen
      have hag := hok hlen
      unfold FinishAgrees at hag
      rw [h2, hb2, hf2, hf1]
      cases hd : rfcDecode (b0 :: b1 :: rest) with
      | ok h k => rw [hd] at hag; exact ⟨hag.1, by rw [hag.2, Nat.add_comm]; rfl, rfl⟩
      | msb => rw [hd] at hag; exact hag
      | incomplete => rw [hd] at hag; exact hag.elim
    · obtain ⟨e, s2, h2⟩ := hshort (by omega)
      rw [hinc (by omega), h2]
      exact ⟨e, rfl⟩

/-- The decoder kept inside wsutil.Reader decides exactly like ws.ReadHeader: same value, same
    error class, same remaining source. It is `rfl` between the model's two copies of the decoder,
    which differ in `bit0` against `0x80`; that wsutil's `Reader.readHeader` has the decisions of
    the second copy is `Bridge.C04.conds_Reader_readHeader` and the correspondence runs. -/
theorem readers_agree (s : Src) : readHeaderUtil s = readHeaderWs s := rfl

/-- wsutil's `Reader.readHeader` agrees with §5.2 on every byte string and chunking. -/
theorem readUtil_decode (s : Src) (hs : Bytes.WF s.bytes) : AgreesWithRfc (readHeaderUtil s) s := by
  rw [readers_agree]; exact readWs_decode s hs

theorem rfcEncode_wf (h : Header) (hw : h.WF) : Bytes.WF (rfcEncode h) := by
  obtain ⟨hr, ho, -, ⟨m0, m1, m2, m3⟩, -⟩ := hw
  have hb0 : 128 * b2n h.fin + 16 * h.rsv + h.op < 256 := by cases h.fin <;> simp [b2n] <;> omega
  have hb1 : 128 * b2n h.masked + len7code h.len < 256 := by
    have := len7code_lt h.len; cases h.masked <;> simp [b2n] <;> omega
  have hext : Bytes.WF (lenExt h.len) := by
    unfold lenExt; split
    · exact Bytes.WF.nil
    · split <;> exact digitsBE_wf _ _
  have hmk : Bytes.WF (if h.masked then h.mask.toList else []) := by
    split
    · intro b hb; simp [Mask.toList] at hb; omega
    · exact Bytes.WF.nil
  exact Bytes.wf_append.mpr ⟨Bytes.wf_append.mpr ⟨Bytes.wf_cons.mpr ⟨hb0, Bytes.wf_cons.mpr ⟨hb1, Bytes.WF.nil⟩⟩, hext⟩, hmk⟩

/-- ws.ReadHeader on the bytes of ws.WriteHeader returns the identical header and consumes not one
    byte beyond it, however the transport chunks the bytes. -/
theorem read_write (h : Header) (hw : h.WF) (rest : Bytes) (hr : Bytes.WF rest) (s : Src)
    (hs : s.bytes = rfcEncode h ++ rest) :
    (readHeaderWs s).1 = .ok h ∧ (readHeaderWs s).2.bytes = rest ∧ (readHeaderWs s).2.fin = s.fin := by
  have hwf : Bytes.WF s.bytes := by
    rw [hs]; exact Bytes.wf_append.mpr ⟨rfcEncode_wf h hw, hr⟩
  have := readWs_decode s hwf
  unfold AgreesWithRfc at this
  rw [hs, decode_encode h hw rest] at this
  refine ⟨this.1, ?_, this.2.2⟩
  rw [this.2.1, ← rfc_len, List.drop_left]

/-- ws.WriteFrame and ws.CompileFrame: the header encoding followed by exactly the payload. -/
theorem writeFrame_eq (f : Frame) (hw : f.header.WF) :
    writeFrame f = .ok (rfcEncode f.header ++ f.payload) ∧ compileFrame f = writeFrame f := by
  simp [writeFrame, compileFrame, write_eq_rfc f.header hw]

/-- ws.ReadFrame on a written frame returns the frame and leaves what follows untouched, for
    every chunking. -/
theorem frame_roundtrip (f : Frame) (hw : f.header.WF) (hp : Bytes.WF f.payload)
    (hlen : f.payload.length = f.header.len) (hmax : f.header.len ≤ maxSliceLen) (rest : Bytes) (hr : Bytes.WF rest) (s : Src)
    (hs : s.bytes = rfcEncode f.header ++ f.payload ++ rest) :
    (readFrame s).1 = .ok f ∧ (readFrame s).2.bytes = rest := by
  obtain ⟨h1, h2, h3⟩ := read_write f.header hw (f.payload ++ rest) (Bytes.wf_append.mpr ⟨hp, hr⟩) s
    (by rw [hs, List.append_assoc])
  unfold readFrame
  rcases hrd : readHeaderWs s with ⟨r, s1⟩
  rw [hrd] at h1 h2 h3
  simp only at h1 h2 h3
  subst h1
  have hnm : ¬ f.header.len > maxSliceLen := by omega
  simp only [if_neg hnm]
  by_cases hz : f.header.len > 0
  · obtain ⟨s2, g1, g2, _⟩ := s1.readFull_ok f.header.len (by rw [h2]; simp; omega)
    simp only [if_pos hz, g1, h2, g2]
    rw [← hlen]
    simp
  · have : f.payload = [] := by
      apply List.eq_nil_of_length_eq_zero; omega
    obtain ⟨hd, pl⟩ := f
    simp only at this hz h2 ⊢
    subst this
    simp [if_neg hz, h2]

example : (⟨true, 5, 2, true, ⟨1, 2, 3, 4⟩, 65536⟩ : Header).WF := by decide
example : writeHeader ⟨true, 5, 2, true, ⟨1, 2, 3, 4⟩, 65536⟩
    = .ok [0xd2, 0xff, 0, 0, 0, 0, 0, 1, 0, 0, 1, 2, 3, 4] := by rfl
example : rfcDecode [0x81, 0xfe, 0x01] = .incomplete := by decide
example : rfcDecode [0x81, 0x7f, 0x80, 0, 0, 0, 0, 0, 0, 0] = .msb := by decide

end Ws.C01
