/-
  C01 — the decoder inside wsutil.Reader keeps no state from one header to the next: whatever the
  reader has been through, `NextFrame` reports the header that ws.ReadHeader reads from the same
  bytes, and where ws.ReadHeader fails it reports none and leaves the source where the decoder did.
-/
import WsVerif.Props.C01
import WsVerif.Proofs.NextFrame
namespace Ws.C01
open Ws Ws.Spec

/-- For a reader without a receive extension (an extension rewrites the RSV bits it claims), in any
    state `r` — fragmented or not, after any history — `NextFrame` hands back exactly the header
    `ws.ReadHeader` decodes from the same source. -/
theorem nextFrame_reports_decoded (r : Rd) (hx : r.ext = false) (s : Src) (cx : Ctx) (cb : Option Callback)
    (h : Header) (s1 : Src) (hd : readHeaderWs s = (.ok h, s1)) :
    (r.nextFrame s cx cb).1 = some h := by
  have hu : readHeaderUtil s = (.ok h, s1) := by rw [readers_agree]; exact hd
  rw [NF.nextFrame_ok hu]
  exact NF.accept_hdr hx s1 cx cb

/-- When `ws.ReadHeader` fails on the source, `NextFrame` in any state reports no header and leaves
    the source where the decoder left it. -/
theorem nextFrame_reports_failure (r : Rd) (s : Src) (cx : Ctx) (cb : Option Callback)
    (e : HdrErr) (s1 : Src) (hd : readHeaderWs s = (.error e, s1)) :
    (r.nextFrame s cx cb).1 = none ∧ (r.nextFrame s cx cb).2.2.2.1 = s1 := by
  have hu : readHeaderUtil s = (.error e, s1) := by rw [readers_agree]; exact hd
  rw [NF.nextFrame_err hu]
  exact ⟨rfl, rfl⟩

/-- A reader in the middle of a fragmented message, with a mask left over from an earlier frame in
    its fields, on an unmasked final text header "81 03": the reported header is the decoded one
    (unmasked, zero key). -/
example :
    readHeaderWs { chunks := [[0x81], [0x03, 0x61, 0x62, 0x63]], fin := .eof }
      = (.ok { fin := true, rsv := 0, op := 1, masked := false, mask := Mask.zero, len := 3 },
         { chunks := [[0x61, 0x62, 0x63]], fin := .eof })
    ∧ (Rd.nextFrame { state := stFragmented, skipCheck := true, masked := true, mask := ⟨1, 2, 3, 4⟩, opCode := 2 }
         { chunks := [[0x81], [0x03, 0x61, 0x62, 0x63]], fin := .eof } {} none).1
      = some { fin := true, rsv := 0, op := 1, masked := false, mask := Mask.zero, len := 3 } := by
  constructor <;> rfl

end Ws.C01
