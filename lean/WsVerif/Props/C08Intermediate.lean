/-
  C08 — a wsutil.Reader with wsutil.ControlFrameHandler as OnIntermediate over a fragmented message: what it writes
  is one pong per interleaved ping, in order (`readAll_message_pongs`, from `readAll_message_g` at `handles_pong`).
-/
import WsVerif.Proofs.ReaderPong
import WsVerif.Props.C04ReadAll
namespace Ws.C08
open Ws Ws.Spec Ws.RdProof Ws.RdCb Ws.RdPong Ws.C06 Ws.C04

def pingsIn : List WFrame → List WFrame
  | [] => []
  | f :: fs => if f.h.op = opPing then f :: pingsIn fs else pingsIn fs

/-- `ws` are the pongs for `ps`, one each, in order, each under some drawn mask -/
inductive Pongs (client : Bool) : List Bytes → List WFrame → Prop
  | nil : Pongs client [] []
  | cons (f : WFrame) (m : Mask) (ws : List Bytes) (ps : List WFrame) :
      Pongs client ws ps → Pongs client (pongWire client f m :: ws) (f :: ps)

theorem handled_writes (client : Bool) (fs : List WFrame) (cx cx' : Ctx) (h : Handled client fs cx cx') :
    ∃ ws, cx'.env.dst.writes = cx.env.dst.writes ++ ws ∧ Pongs client ws (pingsIn fs) ∧ cx'.msgs = cx.msgs := by
  induction h with
  | nil cx => exact ⟨[], by simp, Pongs.nil, rfl⟩
  | data f fs cx cxF hd _ ih =>
    obtain ⟨ws, h1, h2, h3⟩ := ih
    have hnp : ¬ f.h.op = opPing := by intro hp; rw [hp] at hd; exact absurd hd (by decide)
    exact ⟨ws, h1, by simp only [pingsIn, hnp, if_false]; exact h2, h3⟩
  | ctl f fs cx cx1 cxF _ hrep _ ih =>
    obtain ⟨ws, h1, h2, h3⟩ := ih
    obtain ⟨_, hm, hcase⟩ := hrep
    rcases hcase with ⟨hp, hw⟩ | ⟨hp, hw⟩
    · refine ⟨pongWire client f cx.env.popMask.1 :: ws, by rw [h1, hw]; simp, ?_, by rw [h3, hm]⟩
      simp only [pingsIn, hp, if_true]
      exact Pongs.cons _ _ _ _ h2
    · have hnp : ¬ f.h.op = opPing := by rw [hp]; decide
      exact ⟨ws, by rw [h1, hw], by simp only [pingsIn, hnp, if_false]; exact h2, by rw [h3, hm]⟩

/-- C08 / C04: a wsutil.Reader with wsutil.ControlFrameHandler installed as OnIntermediate (the documented set-up) reading
    a fragmented message with pings (0..125 bytes) and pongs between the fragments, for every fragmentation,
    placement of the control frames and transport chunking (no receive extension, CheckUTF8 off). ioutil.ReadAll over
    the reader returns exactly the message's data with no error, the transport stands right behind the message, and
    what was written meanwhile is exactly one pong per interleaved ping — final, the identical payload, masked iff we
    are the client — in stream order, nothing for pongs, nothing else. -/
theorem readAll_message_pongs (client : Bool) (errText : ProtoErr → Bytes)
    (r0 : Rd) (s : Src) (cx : Ctx) (f0 : WFrame) (fs : List WFrame) (rest : Bytes)
    (hnf : r0.fragmented = false) (hst : r0.state < 256)
    (hext : r0.ext = false) (hu8 : r0.checkUTF8 = false)
    (hm : Message r0 f0 fs) (henv : EnvOk cx.env)
    (hg : ∀ f ∈ fs, opIsControl f.h.op = true → GoodCtl f)
    (hb : s.bytes = encodeFs (f0 :: fs) ++ rest) (hwf : Bytes.WF s.bytes) (htame : Src.Tame s) :
    ∃ r1 s1 r' s' cx' ws,
      r0.nextFrame s cx (some (pongH client errText)) = (some f0.h, none, r1, s1, cx)
      ∧ readAllRd r1 s1 cx (some (pongH client errText)) = (dataPlain (f0 :: fs), none, r', s', cx')
      ∧ s'.bytes = rest
      ∧ cx'.env.dst.writes = cx.env.dst.writes ++ ws ∧ Pongs client ws (pingsIn fs) ∧ cx'.msgs = cx.msgs := by
  obtain ⟨s1, r', s', cx', hnext, hall, hb', hrun, _⟩ := readAll_message_g (handles_pong client errText) r0 s cx f0 fs rest hnf hst hext hu8
    hm henv hg hb hwf htame
  obtain ⟨ws, hw1, hw2, hw3⟩ := handled_writes client fs cx cx' (run_pong.mp hrun)
  exact ⟨_, s1, r', s', cx', ws, hnext, hall, hb', hw1, hw2, hw3⟩

example : GoodCtl exPing := by unfold GoodCtl; decide
example : (pingsIn [exPing, exF1, exF2]).length = 1 := by decide

end Ws.C08
