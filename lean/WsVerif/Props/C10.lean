/-
  C10 — Client handshake sends a compliant request and accepts only a valid 101.

  Stated on the model of dialer.go (Model/Dialer.lean), tied to the code by the correspondence run
  (`dl`/`dial` ops) and Bridge.C10. As in C09 the header loop is read as a fold over parsed lines (`runDl`).
  `dial_success_sound` concludes that a status line and a list of header lines exist which pass the checks
  and whose last Sec-WebSocket-Protocol value is the subprotocol returned; that they are the lines of the
  bytes received is not in its conclusion. (That no byte received is lost or reordered is `rest_preserved`.)
-/
import WsVerif.Model.Dialer
import WsVerif.Proofs.Bufio
import WsVerif.Proofs.Seen
import WsVerif.Proofs.Digits
namespace Ws.C10
open Ws Ws.Lex

theorem request_shape (cfg : DialCfg) (uri urlHost nonce : Bytes) :
    writeUpgradeRequest cfg uri urlHost nonce =
      strBytes "GET " ++ uri ++ strBytes " HTTP/1.1\r\n"
        ++ strBytes "Host: " ++ (if cfg.host.isEmpty then urlHost else cfg.host) ++ crlf
        ++ strBytes "Upgrade: websocket\r\nConnection: Upgrade\r\nSec-WebSocket-Version: 13\r\n"
        ++ strBytes "Sec-WebSocket-Key: " ++ nonce ++ crlf
        ++ (if cfg.protocols.isEmpty then []
            else strBytes "Sec-WebSocket-Protocol: " ++ (cfg.protocols.intersperse (strBytes ", ")).flatten ++ crlf)
        ++ (if cfg.extensions.isEmpty then []
            else strBytes "Sec-WebSocket-Extensions: " ++ writeOptions cfg.extensions ++ crlf)
        ++ cfg.header ++ crlf := rfl

/-- The request ends in the configured header bytes followed by CRLF. -/
theorem request_terminated (cfg : DialCfg) (uri urlHost nonce : Bytes) :
    ∃ pre, writeUpgradeRequest cfg uri urlHost nonce = pre ++ cfg.header ++ crlf := ⟨_, rfl⟩

/-- Three bytes that `asciiToInt` reads as 101 are the bytes of "101": it reads digits only, and in three
    digits the value fixes each. -/
theorem digit3_101 (s : Bytes) (hl : s.length = 3) (h : asciiToInt s = some 101) : s = strBytes "101" := by
  match s, hl with
  | [a, b, c], _ =>
    obtain ⟨hd, hv⟩ := foldl_digitStep [a, b, c] 0 101 h
    have := hd a (by simp)
    have := hd b (by simp)
    have := hd c (by simp)
    simp only [List.foldl_cons, List.foldl_nil] at hv
    have : a = 49 ∧ b = 48 ∧ c = 49 := by omega
    obtain ⟨rfl, rfl, rfl⟩ := this
    decide +kernel

theorem status_line_ok (sl : Bytes) (h : dlStatusLine sl = none) :
    (∃ minor, httpParseVersion (bsplit3 sl 32).1 = some (1, minor) ∧ 1 ≤ minor)
      ∧ (bsplit3 sl 32).2.1 = strBytes "101" := by
  revert h
  -- of the five ways out of `dlStatusLine` only the last is `none`
  fun_cases dlStatusLine sl
  case case5 major minor hv st hst hver h101 =>
    intro _
    obtain rfl : st = 101 := Decidable.not_not.mp h101
    by_cases hl : (bsplit3 sl 32).2.1.length = 3
    · rw [if_pos hl] at hst
      obtain rfl : major = 1 := by omega
      exact ⟨⟨minor, hv, by omega⟩, digit3_101 _ hl hst⟩
    · rw [if_neg hl] at hst; cases hst
  all_goals intro h; cases h

def runDl (cfg : DialCfg) (nonce : Bytes) : List (Bytes × Bytes) → Handshake → Nat → Handshake × Nat × Option DialErr
  | [], hs, seen => (hs, seen, none)
  | (k, v) :: r, hs, seen =>
    match (dlHeader cfg nonce hs seen k v).2.2 with
    | some e => ((dlHeader cfg nonce hs seen k v).1, seen, some e)
    | none => runDl cfg nonce r (dlHeader cfg nonce hs seen k v).1 (dlHeader cfg nonce hs seen k v).2.1

theorem runDl_cons_ok {cfg : DialCfg} {nonce k v : Bytes} {hs hs' : Handshake} {seen seen' : Nat}
    (h : dlHeader cfg nonce hs seen k v = (hs', seen', none)) (r : List (Bytes × Bytes)) :
    runDl cfg nonce ((k, v) :: r) hs seen = runDl cfg nonce r hs' seen' := by
  simp only [runDl, h]

theorem dlLoop_history {cfg : DialCfg} {nonce : Bytes} {fuel : Nat} {b b' : Bufio} {hs hs' : Handshake}
    {seen seen' : Nat} (h : dlLoop cfg nonce fuel b hs seen = (hs', none, b', seen')) :
    ∃ hist, runDl cfg nonce hist hs seen = (hs', seen', none) := by
  -- the ways through one round: no fuel, transport error, blank line, unparsable line, a refused
  -- header line, an accepted one (the only one that goes round again)
  fun_induction dlLoop cfg nonce fuel b hs seen
  case case3 => cases h; exact ⟨[], rfl⟩
  case case6 k v _ he ih =>
    obtain ⟨hist, hh⟩ := ih h
    exact ⟨(k, v) :: hist, by rw [runDl, he]; exact hh⟩
  all_goals cases h

def kUpgrade := strBytes "Upgrade"
def kConnection := strBytes "Connection"
def kAccept := strBytes "Sec-Websocket-Accept"
def kProtocol := strBytes "Sec-Websocket-Protocol"
def kExtensions := strBytes "Sec-Websocket-Extensions"

/-- The model spells the names out; the statements here use the constants. -/
theorem hdr_names : strBytes "Upgrade" = kUpgrade ∧ strBytes "Connection" = kConnection
    ∧ strBytes "Sec-Websocket-Accept" = kAccept ∧ strBytes "Sec-Websocket-Protocol" = kProtocol
    ∧ strBytes "Sec-Websocket-Extensions" = kExtensions := ⟨rfl, rfl, rfl, rfl, rfl⟩

/-- The headerSeen bit a (canonical) header name owns. -/
def bitOf (k : Bytes) : Nat :=
  if k = kUpgrade then dSeenUpgrade else if k = kConnection then dSeenConnection else if k = kAccept then dSeenSecAccept
  else 0

/-- What Dialer.Upgrade has checked of a response header line it accepts. -/
def lineGood (cfg : DialCfg) (nonce k v : Bytes) : Prop :=
  (k = kUpgrade → equalFold v (strBytes "websocket") = true) ∧
  (k = kConnection → equalFold v (strBytes "Upgrade") = true) ∧
  (k = kAccept → v = Spec.acceptOf nonce) ∧
  (k = kProtocol → v ∈ cfg.protocols ∧ v ≠ []) ∧
  (k = kExtensions → ∀ o ∈ (parseOptions v).1, ∃ w ∈ cfg.extensions, w.name = o.name)

/-- Each pair in both orders, so that `simp [keys_distinct]` settles every comparison between two of the names. -/
theorem keys_distinct :
    kUpgrade ≠ kConnection ∧ kUpgrade ≠ kAccept ∧ kUpgrade ≠ kProtocol ∧ kUpgrade ≠ kExtensions
    ∧ kConnection ≠ kUpgrade ∧ kConnection ≠ kAccept ∧ kConnection ≠ kProtocol ∧ kConnection ≠ kExtensions
    ∧ kAccept ≠ kUpgrade ∧ kAccept ≠ kConnection ∧ kAccept ≠ kProtocol ∧ kAccept ≠ kExtensions
    ∧ kProtocol ≠ kUpgrade ∧ kProtocol ≠ kConnection ∧ kProtocol ≠ kAccept ∧ kProtocol ≠ kExtensions
    ∧ kExtensions ≠ kUpgrade ∧ kExtensions ≠ kConnection ∧ kExtensions ≠ kAccept ∧ kExtensions ≠ kProtocol := by
  decide +kernel

theorem matchSel_go (wanted : List Opt) (os received : List Opt) (rcv : List Opt)
    (h : matchSelectedExtensions.go wanted os received = (rcv, true)) :
    (∀ o ∈ os, ∃ w ∈ wanted, w.name = o.name) ∧
      rcv = received ++ os.filterMap (fun o => (wanted.find? (fun w => w.name == o.name)).map (fun w => { w with params := o.params })) := by
  -- no option left; the first names an offered one; it does not
  fun_induction matchSelectedExtensions.go wanted os received
  case case1 => cases h; simp
  case case2 w hw ih =>
    obtain ⟨i1, i2⟩ := ih h
    refine ⟨List.forall_mem_cons.mpr ⟨⟨w, List.mem_of_find?_eq_some hw, by simpa using List.find?_some hw⟩, i1⟩, ?_⟩
    rw [i2]; simp [hw, List.append_assoc]
  case case3 => cases h

theorem matchSel_ok (v : Bytes) (wanted received rcv : List Opt)
    (h : matchSelectedExtensions v wanted received = (rcv, none)) :
    v = [] ∧ rcv = received ∨
    ((∀ o ∈ (parseOptions v).1, ∃ w ∈ wanted, w.name = o.name) ∧
      rcv = received ++ (parseOptions v).1.filterMap (fun o =>
        (wanted.find? (fun w => w.name == o.name)).map (fun w => { w with params := o.params }))) := by
  revert h
  -- no header value at all; an option not offered, a lexer error, an empty list; all options matched
  fun_cases matchSelectedExtensions v wanted received
  case case1 he => intro h; cases h; exact .inl ⟨List.isEmpty_iff.mp he, rfl⟩
  case case5 calls ok hc opts allMatch rcv' hg ha _ _ =>
    intro h; cases h
    rw [Bool.not_eq_true, Bool.not_eq_false'] at ha
    rw [ha] at hg
    rw [show (parseOptions v).1 = opts by rw [parseOptions, hc]]
    exact .inr (matchSel_go wanted _ received rcv hg)
  all_goals intro h; cases h

theorem dlHeader_upgrade (cfg : DialCfg) (nonce : Bytes) (hs : Handshake) (seen : Nat) (v : Bytes) :
    dlHeader cfg nonce hs seen kUpgrade v
      = (hs, seen ||| dSeenUpgrade, if equalFold v (strBytes "websocket") then none else some .badUpgrade) := by
  unfold dlHeader
  simp only [hdr_names, if_true]

theorem dlHeader_connection (cfg : DialCfg) (nonce : Bytes) (hs : Handshake) (seen : Nat) (v : Bytes) :
    dlHeader cfg nonce hs seen kConnection v
      = (hs, seen ||| dSeenConnection, if equalFold v (strBytes "Upgrade") then none else some .badConnection) := by
  unfold dlHeader
  simp only [hdr_names, keys_distinct, if_false, if_true]

theorem dlHeader_accept (cfg : DialCfg) (nonce : Bytes) (hs : Handshake) (seen : Nat) (v : Bytes) :
    dlHeader cfg nonce hs seen kAccept v
      = (hs, seen ||| dSeenSecAccept, if v.length = 28 ∧ v = Spec.acceptOf nonce then none else some .badSecAccept) := by
  unfold dlHeader
  simp only [hdr_names, keys_distinct, if_false, if_true]

theorem dlHeader_protocol (cfg : DialCfg) (nonce : Bytes) (hs : Handshake) (seen : Nat) (v : Bytes) :
    dlHeader cfg nonce hs seen kProtocol v
      = match cfg.protocols.find? (fun w => w == v) with
        | some w => if w.isEmpty then (hs, seen, some .badSubProtocol) else ({ hs with protocol := w }, seen, none)
        | none => (hs, seen, some .badSubProtocol) := by
  unfold dlHeader
  simp only [hdr_names, keys_distinct, if_false, if_true]
  rfl

theorem dlHeader_extensions (cfg : DialCfg) (nonce : Bytes) (hs : Handshake) (seen : Nat) (v : Bytes) :
    dlHeader cfg nonce hs seen kExtensions v
      = ({ hs with extensions := (matchSelectedExtensions v cfg.extensions hs.extensions).1 }, seen,
          (matchSelectedExtensions v cfg.extensions hs.extensions).2) := by
  unfold dlHeader
  simp only [hdr_names, keys_distinct, if_false, if_true]

theorem dlHeader_other (cfg : DialCfg) (nonce : Bytes) (hs : Handshake) (seen : Nat) {k : Bytes} (v : Bytes)
    (h1 : k ≠ kUpgrade) (h2 : k ≠ kConnection) (h3 : k ≠ kAccept) (h4 : k ≠ kProtocol) (h5 : k ≠ kExtensions) :
    (dlHeader cfg nonce hs seen k v).1 = hs ∧ (dlHeader cfg nonce hs seen k v).2.1 = seen := by
  -- the first seven cases are the five names (the subprotocol three times: empty, found, not found)
  fun_cases dlHeader cfg nonce hs seen k v
  case case1 h => exact absurd h h1
  case case2 h => exact absurd h h2
  case case3 h => exact absurd h h3
  case case4 h _ _ _ => exact absurd h h4
  case case5 h _ _ _ => exact absurd h h4
  case case6 h _ => exact absurd h h4
  case case7 h => exact absurd h h5
  all_goals exact ⟨rfl, rfl⟩

theorem dlHeader_ok (cfg : DialCfg) (nonce : Bytes) (hs : Handshake) (seen : Nat) (k v : Bytes)
    (h : (dlHeader cfg nonce hs seen k v).2.2 = none) :
    lineGood cfg nonce k v ∧ (dlHeader cfg nonce hs seen k v).2.1 = seen ||| bitOf k
      ∧ (dlHeader cfg nonce hs seen k v).1.protocol = (if k = kProtocol then v else hs.protocol) := by
  rcases five_cases k kUpgrade kConnection kAccept kProtocol kExtensions with rfl | rfl | rfl | rfl | rfl | ⟨h1, h2, h3, h4, h5⟩
  · rw [dlHeader_upgrade] at h ⊢
    simpa [lineGood, bitOf, keys_distinct] using h
  · rw [dlHeader_connection] at h ⊢
    simpa [lineGood, bitOf, keys_distinct] using h
  · rw [dlHeader_accept] at h ⊢
    simp only [ite_eq_left_iff, reduceCtorEq, imp_false, Decidable.not_not] at h
    simpa [lineGood, bitOf, keys_distinct] using h.2
  · rw [dlHeader_protocol] at h ⊢
    cases hf : cfg.protocols.find? (fun w => w == v) with
    | none => rw [hf] at h; cases h
    | some w =>
      rw [hf] at h
      simp only at h ⊢
      obtain rfl : w = v := by simpa using List.find?_some hf
      by_cases hwe : w.isEmpty
      · rw [if_pos hwe] at h; cases h
      · rw [if_neg hwe]
        refine ⟨?_, by simp [bitOf, keys_distinct], by simp⟩
        simpa [lineGood, keys_distinct] using And.intro (List.mem_of_find?_eq_some hf) hwe
  · rw [dlHeader_extensions] at h ⊢
    refine ⟨?_, by simp [bitOf, keys_distinct], by simp [keys_distinct]⟩
    simp only [lineGood, keys_distinct, false_imp_iff, true_and, forall_const]
    rcases matchSel_ok v _ _ _ (Prod.ext rfl h) with ⟨rfl, _⟩ | ⟨hall, _⟩
    · -- no header value: no option
      have h0 : (parseOptions []).1 = [] := by decide +kernel
      rw [h0]; nofun
    · exact hall
  · obtain ⟨e1, e2⟩ := dlHeader_other cfg nonce hs seen v h1 h2 h3 h4 h5
    simp [lineGood, bitOf, e1, e2, h1, h2, h3, h4, h5]

def lastProto (hist : List (Bytes × Bytes)) (dflt : Bytes) : Bytes :=
  hist.foldl (fun p kv => if kv.1 = kProtocol then kv.2 else p) dflt

theorem runDl_sound (cfg : DialCfg) (nonce : Bytes) (hist : List (Bytes × Bytes)) (hs hs' : Handshake) (seen seen' : Nat)
    (h : runDl cfg nonce hist hs seen = (hs', seen', none)) :
    (∀ kv ∈ hist, lineGood cfg nonce kv.1 kv.2)
      ∧ seen' = hist.foldl (fun a kv => a ||| bitOf kv.1) seen
      ∧ hs'.protocol = lastProto hist hs.protocol := by
  -- no line left; the first line refused; the first line accepted
  fun_induction runDl cfg nonce hist hs seen with
  | case1 => cases h; exact ⟨nofun, rfl, rfl⟩
  | case2 => cases h
  | case3 k v r hs seen he ih =>
    obtain ⟨g, s, p⟩ := dlHeader_ok cfg nonce hs seen k v he
    obtain ⟨i1, i2, i3⟩ := ih h
    exact ⟨List.forall_mem_cons.mpr ⟨g, i1⟩, by rw [i2, s]; rfl, by rw [i3, p]; rfl⟩

theorem eq_of_bitOf_testBit (k : Bytes) :
    ((bitOf k).testBit 0 = true → k = kUpgrade) ∧ ((bitOf k).testBit 1 = true → k = kConnection)
    ∧ ((bitOf k).testBit 2 = true → k = kAccept) := by
  fun_cases bitOf k <;> simp_all [dSeenUpgrade, dSeenConnection, dSeenSecAccept, Nat.testBit]

theorem seen7_present (hist : List (Bytes × Bytes))
    (h : hist.foldl (fun a kv => a ||| bitOf kv.1) 0 = 7) :
    (∃ kv ∈ hist, kv.1 = kUpgrade) ∧ (∃ kv ∈ hist, kv.1 = kConnection) ∧ (∃ kv ∈ hist, kv.1 = kAccept) := by
  obtain ⟨a, ha, ha'⟩ := seen_full (n := 3) h 0 (by decide)
  obtain ⟨b, hb, hb'⟩ := seen_full (n := 3) h 1 (by decide)
  obtain ⟨c, hc, hc'⟩ := seen_full (n := 3) h 2 (by decide)
  exact ⟨⟨a, ha, (eq_of_bitOf_testBit a.1).1 ha'⟩, ⟨b, hb, (eq_of_bitOf_testBit b.1).2.1 hb'⟩,
    ⟨c, hc, (eq_of_bitOf_testBit c.1).2.2 hc'⟩⟩

/-- On success there are a status line and a list of header lines such that: the line is
    HTTP/1.x (x ≥ 1) with the status token literally "101", every line of the list is acceptable, Upgrade,
    Connection and Sec-WebSocket-Accept all occur in it, and the subprotocol returned is the last one it
    names. (The conclusion does not tie the line and the list to `src`.) -/
theorem dial_success_sound (cfg : DialCfg) (nonce : Bytes) (src : Src) (hs : Handshake) (b : Bufio)
    (h : dialerUpgrade cfg nonce src = (hs, none, b)) :
    ∃ sl hist,
      (∃ minor, httpParseVersion (bsplit3 sl 32).1 = some (1, minor) ∧ 1 ≤ minor)
      ∧ (bsplit3 sl 32).2.1 = strBytes "101"
      ∧ (∀ kv ∈ hist, lineGood cfg nonce kv.1 kv.2)
      ∧ (∃ kv ∈ hist, kv.1 = kUpgrade) ∧ (∃ kv ∈ hist, kv.1 = kConnection) ∧ (∃ kv ∈ hist, kv.1 = kAccept)
      ∧ hs.protocol = lastProto hist [] := by
  revert h
  -- the ways out of `dialerUpgrade`: transport error on the status line, status line refused,
  -- error in the head, the head read to its blank line
  fun_cases dialerUpgrade cfg nonce src
  case case4 sl b1 _ hsl hs' b' seen hl =>
    intro h
    injection h with h1 h; injection h with h2 _
    obtain ⟨hist, hh⟩ := dlLoop_history hl
    obtain ⟨g, s, p⟩ := runDl_sound cfg nonce hist {} hs' 0 seen hh
    have hseen : seen = 7 := Decidable.not_not.mp (ite_some_eq_none.mp h2).1
    obtain ⟨p1, p2, p3⟩ := seen7_present hist (by rw [← s, hseen])
    obtain ⟨v1, v2⟩ := status_line_ok sl hsl
    exact ⟨sl, hist, v1, v2, g, p1, p2, p3, by rw [← h1, p]⟩
  all_goals intro h; cases h

theorem dlLoop_suffix {cfg : DialCfg} {nonce : Bytes} {fuel : Nat} {b : Bufio} {hs : Handshake} {seen : Nat}
    {r : Handshake × Option DialErr × Bufio × Nat} (h : dlLoop cfg nonce fuel b hs seen = r) : r.2.2.1.all <:+ b.all := by
  subst h
  -- (the ways through one round: see `dlLoop_history`) no fuel: nothing is read; an accepted line: one line is
  -- read, then the rest of the loop; every other way: one line is read
  fun_induction dlLoop cfg nonce fuel b hs seen
  case case1 => exact List.suffix_refl _
  case case6 ih => exact ih.trans (readLine_suffix ‹_›)
  all_goals exact readLine_suffix ‹_›

/-- Whatever the outcome, what remains readable through the returned buffer followed by the
    connection is a suffix of the bytes the server sent: once, in order, nothing dropped. -/
theorem rest_preserved (cfg : DialCfg) (nonce : Bytes) (src : Src) :
    ∃ head, src.bytes = head ++ (dialerUpgrade cfg nonce src).2.2.all := by
  suffices h : (dialerUpgrade cfg nonce src).2.2.all <:+ src.bytes from h.imp fun _ => Eq.symm
  -- the status line cut short or refused: one line was read; otherwise the loop ran as well
  fun_cases dialerUpgrade cfg nonce src
  case case1 | case2 => exact readLine_suffix ‹_›
  all_goals exact (dlLoop_suffix ‹_›).trans (readLine_suffix ‹_›)

/-- The address is the URL host itself, or that host with the given port appended. (Which of the two it is:
    `hostport_no_colon` and the examples below.) -/
theorem hostport_addr (host port : Bytes) :
    (hostport host port).2 = host ∨ (hostport host port).2 = host ++ port := by
  unfold hostport
  simp only
  cases (host.reverse.idxOf? 58).map (fun i => host.length - 1 - i) with
  | none => simp
  | some c =>
    simp only
    split <;> split <;> simp

theorem hostport_no_colon (host port : Bytes) (h : 58 ∉ host) : hostport host port = (host, host ++ port) := by
  unfold hostport
  have : host.reverse.idxOf? 58 = none := by
    rw [List.idxOf?_eq_none_iff]; simpa using h
  simp [this]

example : hostport (strBytes "example.com") (strBytes ":80") = (strBytes "example.com", strBytes "example.com:80") := by decide +kernel
example : hostport (strBytes "example.com:8080") (strBytes ":80") = (strBytes "example.com", strBytes "example.com:8080") := by decide +kernel
example : hostport (strBytes "[::1]") (strBytes ":443") = (strBytes "[::1]", strBytes "[::1]:443") := by decide +kernel
example : hostport (strBytes "[::1]:9000") (strBytes ":443") = (strBytes "[::1]", strBytes "[::1]:9000") := by decide +kernel

/-- Dialer.tlsClient (a wss URL). With no name configured (no TLS configuration at all, or one without a
    ServerName) the session is set up for the URL's own host name, whatever was dialed before: the shared
    configuration (the caller's, or the package-level default) is left as it was. -/
theorem tls_name_is_url_host (cfgName : Option Bytes) (hostname : Bytes) (h : (cfgName.getD []) = []) :
    tlsServerName cfgName hostname = (hostname, []) := by
  unfold tlsServerName; simp [h]

theorem tls_name_configured (name hostname : Bytes) (h : name ≠ []) :
    tlsServerName (some name) hostname = (name, name) := by
  unfold tlsServerName
  cases name with
  | nil => exact absurd rfl h
  | cons a as => simp

/-- A history of dials through one configuration: the server names used, and the configuration afterwards. -/
def dialAll (cfgName : Option Bytes) : List Bytes → List Bytes × Option Bytes
  | [] => ([], cfgName)
  | h :: hs =>
    let (n, after) := tlsServerName cfgName h
    let (ns, fin) := dialAll (cfgName.map fun _ => after) hs
    (n :: ns, fin)

/-- Over any history of dials through the same configuration, the configuration never changes, so every
    dial's server name is a function of that dial's own URL host alone. -/
theorem dial_history_independent (cfgName : Option Bytes) (hosts : List Bytes) :
    dialAll cfgName hosts = (hosts.map fun h => (tlsServerName cfgName h).1, cfgName) := by
  induction hosts with
  | nil => rfl
  | cons h hs ih =>
    have hsame : (cfgName.map fun _ => (tlsServerName cfgName h).2) = cfgName := by
      cases cfgName with
      | none => rfl
      | some n => unfold tlsServerName; simp only [Option.getD_some, Option.map_some]; split <;> rfl
    simp only [dialAll, hsame, ih, List.map_cons]

example : dialAll none [strBytes "first.example", strBytes "second.example"]
    = ([strBytes "first.example", strBytes "second.example"], none) := by decide +kernel

end Ws.C10
