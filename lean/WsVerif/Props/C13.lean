/-
  C13 — Compression bit RSV1 is set and accepted only on the first frame of a message.
-/
import WsVerif.Props.C06
import WsVerif.Proofs.Check
import WsVerif.Proofs.NextFrame
namespace Ws.C13
open Ws Ws.Spec Ws.C06

theorem extRsv_first (ext : Option Bool) (op : Nat) :
    extRsv ext op = if ext = some true ∧ opIsData op = true ∧ op ≠ opContinuation then 4 else 0 := by
  unfold extRsv
  cases ext with
  | none => simp
  | some b => cases b <;> simp

theorem extRsv_cont (ext : Option Bool) : extRsv ext opContinuation = 0 := by
  simp [extRsv_first]

/-- Every frame the writer emits after a FlushFragment / WriteThrough (fseq > 0) carries no
    RSV bit, whatever the message state says. -/
theorem send_no_rsv_on_continuation (w : Wr) (h : w.fseq > 0) : extRsv w.ext w.opCode = 0 := by
  rw [Wr.opCode, if_pos h, extRsv_cont]

/-- The RSV bits a flushed / written-through frame carries with the compression message state
    attached: RSV1 (value 4) exactly on the first frame (fseq = 0) of a data message marked
    compressed; nothing on continuation frames, on control opcodes, or when the message is not
    compressed or no extension is attached. RSV2/RSV3 are never set. -/
theorem send_rsv1_first_only (w : Wr) (hop : w.op < 16) :
    extRsv w.ext w.opCode =
      if w.ext = some true ∧ w.fseq = 0 ∧ (w.op = opText ∨ w.op = opBinary ∨ (0 < w.op ∧ w.op < 8)) then 4 else 0 := by
  by_cases hf : w.fseq > 0
  · rw [send_no_rsv_on_continuation w hf, if_neg]
    omega
  · have : opIsData w.op = true ∧ w.op ≠ opContinuation ↔
        w.fseq = 0 ∧ (w.op = opText ∨ w.op = opBinary ∨ (0 < w.op ∧ w.op < 8)) := by
      simp only [(op_ctl hop).2, decide_eq_true_eq, opContinuation, opText, opBinary]
      omega
    simp only [Wr.opCode, if_neg hf, extRsv_first, this]

/-- The writer's `extRsv` is MessageState.SetBits applied to the fresh (RSV = 0) header it builds. -/
theorem setBits_fresh (c : Bool) (h : Header) (h0 : h.rsv = 0) :
    setBits c h = ({ h with rsv := extRsv (some c) h.op }, none) := by
  obtain ⟨f, r, o, m, k, l⟩ := h
  subst h0
  unfold setBits extRsv
  cases c <;> cases hd : opIsData o <;> cases hc : (o == opContinuation) <;> simp_all [bne]

/-- SetBits hands a control or continuation header back as it came, whether or not it also reports
    an RSV1 on it as an error. -/
theorem setBits_only_first_data (c : Bool) (h : Header) (hop : h.op < 16) (hd : ¬ (h.op < 8 ∧ h.op ≠ 0)) :
    (setBits c h).1 = h := by
  have hf : (!opIsData h.op || h.op == opContinuation) = true := by
    rw [(op_ctl hop).2]
    simp [opContinuation]
    omega
  unfold setBits
  rw [if_pos hf]
  split <;> rfl

def isFirstData (h : Header) : Bool := opIsData h.op && h.op != opContinuation

/-- what the application is handed for an accepted header -/
def handed (h : Header) : Header := if isFirstData h then { h with rsv := h.rsv &&& 3 } else h

/-- a header the state refuses: RSV1 on a continuation or control frame -/
def misplaced (h : Header) : Bool := !isFirstData h && h.rsv &&& 4 != 0

theorem unsetBits_eq (c : Bool) (h : Header) :
    unsetBits c h = (handed h, (if misplaced h then some .unexpectedCompressionBit else none),
                     if isFirstData h then h.rsv &&& 4 != 0 else c) := by
  unfold unsetBits handed misplaced isFirstData
  cases (opIsData h.op && h.op != opContinuation) <;> cases (h.rsv &&& 4 != 0) <;> rfl

theorem isFirstData_eq {h : Header} (hop : h.op < 16) : isFirstData h = decide (h.op < 8 ∧ h.op ≠ 0) := by
  rw [Bool.eq_iff_iff]
  simp [isFirstData, (op_ctl hop).2, opContinuation]

theorem rsv_bits : ∀ r < 8, (r &&& 4 != 0) = decide (4 ≤ r) ∧ r &&& 3 = r % 4 := by decide

/-- UnsetBits on the first frame of a data message: the state becomes "RSV1 of that frame", the
    header handed on has RSV1 cleared and RSV2/RSV3 untouched, no error. -/
theorem recv_first_frame (c : Bool) (h : Header) (hop : h.op < 16) (hrsv : h.rsv < 8)
    (hd : h.op < 8 ∧ h.op ≠ 0) :
    unsetBits c h = ({ h with rsv := h.rsv % 4 }, none, decide (4 ≤ h.rsv)) := by
  simp [unsetBits_eq, handed, misplaced, isFirstData_eq hop, hd, rsv_bits _ hrsv]

/-- On continuation and control frames the state is not disturbed; RSV1 there is a protocol error
    (and the state is still untouched), otherwise the header passes unchanged. -/
theorem recv_other_frame (c : Bool) (h : Header) (hop : h.op < 16) (hrsv : h.rsv < 8)
    (hd : ¬ (h.op < 8 ∧ h.op ≠ 0)) :
    unsetBits c h = (h, if 4 ≤ h.rsv then some .unexpectedCompressionBit else none, c) := by
  simp [unsetBits_eq, handed, misplaced, isFirstData_eq hop, hd, rsv_bits _ hrsv]

/-- Wiring in the message reader: with the extension attached, a frame whose RSV1 is misplaced is
    rejected by NextFrame with that protocol error; the compression state is left as it was. -/
theorem reader_rejects_misplaced_rsv1 (r : Rd) (s s1 : Src) (cx : Ctx) (cb : Option Callback) (hdr : Header)
    (hh : readHeaderUtil s = (.ok hdr, s1))
    (hc : (if r.skipCheck then none else checkHeader hdr r.state) = none)
    (hmax : ¬ (r.maxFrame > 0 ∧ hdr.len > r.maxFrame)) (hext : r.ext = true)
    (hop : hdr.op < 16) (hrsv : hdr.rsv < 8) (hd : ¬ (hdr.op < 8 ∧ hdr.op ≠ 0)) (h4 : 4 ≤ hdr.rsv) :
    (r.nextFrame s cx cb).2.1 = some (.proto .unexpectedCompressionBit)
      ∧ (r.nextFrame s cx cb).2.2.1.compressed = r.compressed := by
  rw [NF.nextFrame_ok hh, NF.accept_error (NF.gate_ext_refused hc hmax hext
    (by rw [recv_other_frame r.compressed hdr hop hrsv hd, if_pos h4]))]
  exact ⟨rfl, rfl⟩

/- RSV1 goes on a compressed text frame only; it is taken off a first text frame into the state, and refused on a ping. -/
example : extRsv (some true) 1 = 4 ∧ extRsv (some true) 0 = 0 ∧ extRsv (some true) 9 = 0 ∧ extRsv (some false) 2 = 0 := by decide
example : unsetBits false ⟨false, 5, 1, false, Mask.zero, 3⟩ = (⟨false, 1, 1, false, Mask.zero, 3⟩, none, true) := by decide
example : (unsetBits true ⟨true, 4, 9, false, Mask.zero, 0⟩).2.1 = some .unexpectedCompressionBit := by decide

end Ws.C13
