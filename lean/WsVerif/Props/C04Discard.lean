/-
  C04 — skipping instead of reading. `Reader.Discard()` called anywhere inside a message consumes exactly the rest of
  it — the remaining fragments and every control frame between them — for every transport chunking, reports no error
  and leaves the transport at the first byte after the message (no receive extension, OnIntermediate unset).
  Discard works on the raw frames and never feeds the validator, so the same holds with CheckUTF8 on, whatever the
  text, valid or not (`message_skipped_any`, `discard_strip`).
-/
import WsVerif.Props.C04
import WsVerif.Proofs.ReaderSim
namespace Ws.C04
open Ws Ws.Spec Ws.RdProof Ws.RdText

/-- 2 of 5 payload bytes already read from a final masked frame, 3 left on the transport in two chunks, followed by
    the first byte of the next frame. -/
example : (Rd.discard { state := 1, hasFrame := true, rawN := 3, masked := true, mask := ⟨1, 2, 3, 4⟩, cpos := 2 }
    { chunks := [[7, 8], [9, 0x81]], fin := .eof } {} none 1).2.2.1.bytes = [0x81] := by rfl

theorem discard_tail (skip : Bool) (st maxF : Nat) (rest : Bytes) (cx : Ctx) (fs : List WFrame)
    (ht : Tail false skip st maxF fs) :
    ∀ (r : Rd) (s : Src) (wire : Bytes) (fuel : Nat),
      Common skip st maxF r s → r.state = st → r.rawN = wire.length → s.bytes = wire ++ (encodeFs fs ++ rest) →
      fs.length < fuel →
      ∃ r' s', r.discard s cx none fuel = (none, r', s', cx) ∧ s'.bytes = rest ∧ Src.Tame s' := by
  intro r s wire fuel hc hst hn hb hfuel
  obtain ⟨r', s', cx', hd, hb', ht', hrun, _⟩ := discard_closed handles_none skip st maxF rest fs ht (fun _ _ _ => trivial)
    r s wire fuel cx hc.cfg hst hn hb hfuel trivial
  exact ⟨r', s', run_none hrun ▸ hd, hb', ht'⟩

/-- From anywhere inside a message (the `Sync` invariant of Proofs/Reader: in a fragment with `out`
    still to deliver, or between two fragments): Discard reports no error and leaves the transport
    at `rest`, the first byte after the message. -/
theorem discard_from_sync (skip : Bool) (st maxF : Nat) (rest : Bytes) (cx : Ctx) (r : Rd) (s : Src) (out : Bytes)
    (fs : List WFrame) (hs : Sync false skip st maxF rest r s out fs) (hraw : r.hasFrame = false → r.rawN = 0) :
    ∃ r' s', r.discard s cx none (fs.length + 2) = (none, r', s', cx) ∧ s'.bytes = rest ∧ Src.Tame s' := by
  cases hs with
  | mid wire _ hc hin hst ht =>
    exact discard_tail skip st maxF rest cx fs ht r s wire _ hc hst hin.n hin.bytes (by omega)
  | lastFrame wire hc hin hst =>
    have hnf : r.fragmented = false := by simp [Rd.fragmented, hst, hc.stClr]
    obtain ⟨s', h1, h2, h3⟩ := discard_final_frame r s cx none 1 wire rest hnf hin.bytes hin.n hc.tame
    exact ⟨_, s', h1, h2, h3⟩
  | between _ hc hno hst hb ht =>
    exact discard_tail skip st maxF rest cx fs ht r s [] _ hc hst (by simp [hraw hno]) (by simpa using hb) (by omega)

/-- Skipping a message, CheckUTF8 on or off: NextFrame on the first frame of a message (any fragmentation, control
    frames interleaved, any transport chunking), then Discard without reading a byte: no error, and the transport
    stands at the first byte after the message. -/
theorem message_skipped_any (r0 : Rd) (s : Src) (cx : Ctx) (f0 : WFrame) (fs : List WFrame) (rest : Bytes)
    (hnf : r0.fragmented = false) (hst : r0.state < 256) (hext : r0.ext = false)
    (hm : Message r0 f0 fs)
    (hb : s.bytes = encodeFs (f0 :: fs) ++ rest) (hwf : Bytes.WF s.bytes) (htame : Src.Tame s) :
    ∃ r1 s1, r0.nextFrame s cx none = (some f0.h, none, r1, s1, cx)
      ∧ ∃ r' s', r1.discard s1 cx none (fs.length + 2) = (none, r', s', cx) ∧ s'.bytes = rest ∧ Src.Tame s' := by
  obtain ⟨b1, b2, b3, _⟩ := stbits r0.state hst
  obtain ⟨s1, hnext, hb1, hwf1, ht1, _, _⟩ := nextFrame_at r0 s cx none f0.h (f0.wire ++ (encodeFs fs ++ rest)) hext
    (by rw [hb, encodeFs_cons]) hwf htame hm.ok0.hwf hm.acc0 (by rw [hm.data0, Bool.and_false])
  refine ⟨enter r0 f0.h, s1, hnext, ?_⟩
  by_cases hfin : f0.h.fin = true
  · -- a single frame
    have hfs := hm.rest; rw [if_pos hfin] at hfs; subst hfs
    obtain ⟨s', hd, hb', ht'⟩ := discard_final_frame (enter r0 f0.h) s1 cx none 1 f0.wire rest
      (by simp [enter, Rd.fragmented, hfin, stClear_not_set]) (by simpa [encodeFs] using hb1) hm.ok0.len.symm ht1
    exact ⟨_, s', hd, hb', ht'⟩
  · have hfs := hm.rest; rw [if_neg hfin] at hfs
    obtain ⟨r', s', cx', hd, hb', ht', hrun, _⟩ := discard_closed handles_none r0.skipCheck (stSet r0.state stFragmented) r0.maxFrame rest fs hfs
      (fun _ _ _ => trivial) (enter r0 f0.h) s1 f0.wire (fs.length + 2) cx ⟨hext, rfl, rfl, ht1, hwf1, b1, b2, b3⟩
      (by simp [enter, hfin]) hm.ok0.len.symm hb1 (by omega) trivial
    exact ⟨r', s', run_none hrun ▸ hd, hb', ht'⟩

/-- The same stated for the reader of `message_delivered` (CheckUTF8 off). -/
theorem message_skipped (r0 : Rd) (s : Src) (cx : Ctx) (f0 : WFrame) (fs : List WFrame) (rest : Bytes)
    (hnf : r0.fragmented = false) (hst : r0.state < 256)
    (hext : r0.ext = false) (hu8 : r0.checkUTF8 = false)
    (hm : Message r0 f0 fs)
    (hb : s.bytes = encodeFs (f0 :: fs) ++ rest) (hwf : Bytes.WF s.bytes) (htame : Src.Tame s) :
    ∃ r1 s1, r0.nextFrame s cx none = (some f0.h, none, r1, s1, cx)
      ∧ ∃ r' s', r1.discard s1 cx none (fs.length + 2) = (none, r', s', cx) ∧ s'.bytes = rest ∧ Src.Tame s' :=
  message_skipped_any r0 s cx f0 fs rest hnf hst hext hm hb hwf htame

example :
    (match exR0.nextFrame exSrc {} none with
     | (_, _, r1, s1, cx) => ((r1.discard s1 cx none 5).1, (r1.discard s1 cx none 5).2.2.1.bytes))
      = (none, [0x81, 0x85]) := by decide

theorem reset_strip (r : Rd) : (strip r).reset = strip r.reset := rfl

/-- Discard does not look at the UTF-8 fields. -/
theorem discard_strip (n : Nat) (r : Rd) (s : Src) (cx : Ctx) :
    (strip r).discard s cx none n =
      ((r.discard s cx none n).1, strip (r.discard s cx none n).2.1, (r.discard s cx none n).2.2.1, (r.discard s cx none n).2.2.2) :=
  RdBin.discard_strip_o RdBin.ok_none n r s cx

/-- With checking on, a text message that is not valid UTF-8 (a lone 0xff) is skipped all the same. -/
example :
    (match Rd.nextFrame { state := 1, checkUTF8 := true } { chunks := [[0x81, 0x81, 0, 0, 0, 0, 0xff, 0x8a]], fin := .eof } {} none with
     | (_, e, r1, s1, cx) => (e, r1.utf8on, (r1.discard s1 cx none 2).1, (r1.discard s1 cx none 2).2.2.1.bytes))
      = (none, true, none, [0x8a]) := by decide

end Ws.C04
