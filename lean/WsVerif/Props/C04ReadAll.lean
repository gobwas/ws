/-
  C04 / C08 — a whole message read through a reader with an OnIntermediate handler, for every fragmentation, every
  placement of control frames between the fragments and every transport chunking (no receive extension, CheckUTF8
  off): by Reads of any sizes (`message_delivered_collect`) and by ioutil.ReadAll (`readAll_message_g` for any
  handler meeting `Handles`; `readAll_message` for the collecting handler, `readAll_message_plain` for none).
-/
import WsVerif.Props.C04
import WsVerif.Proofs.ReaderCb
namespace Ws.C04
open Ws Ws.Spec Ws.RdProof Ws.RdCb Ws.RdBin

def controls : List WFrame → List (Nat × Bytes)
  | [] => []
  | f :: fs => (if opIsControl f.h.op then [(f.h.op, f.plain)] else []) ++ controls fs

theorem ctlLog_spec (fs : List WFrame) (cx : Ctx) :
    ctlLog fs cx = { cx with msgs := cx.msgs ++ controls fs } := by
  induction fs generalizing cx with
  | nil => simp [ctlLog, controls]
  | cons f fs ih =>
    simp only [ctlLog, controls]
    split
    · rw [ih]; simp [logMsg, List.append_assoc]
    · rw [ih]; simp

/-- the handler `wsutil.ReadMessage` installs in the model (`Ws.collectCb`, Model/Helper) is the `RdCb.collect` these
    theorems are stated for -/
theorem collectCb_eq : collectCb = collect := rfl

/-- C04 / C08: the reader of `message_delivered` with OnIntermediate set to the handler wsutil.ReadMessage installs (it
    reads the control payload through the frame reader it is given, to its end, and records (opcode, payload)). The
    Reads deliver exactly the data payload, as without a handler, and when the message has been read to io.EOF the
    handler has been called exactly once per interleaved control frame, in stream order, each time with that
    frame's opcode and its exact unmasked payload; nothing else was logged, nothing was written. -/
theorem message_delivered_collect (r0 : Rd) (s : Src) (cx : Ctx) (f0 : WFrame) (fs : List WFrame) (rest : Bytes)
    (ks : List Nat) (hpos : ∀ k ∈ ks, 0 < k)
    (hnf : r0.fragmented = false) (hst : r0.state < 256)
    (hext : r0.ext = false) (hu8 : r0.checkUTF8 = false)
    (hm : Message r0 f0 fs)
    (hb : s.bytes = encodeFs (f0 :: fs) ++ rest) (hwf : Bytes.WF s.bytes) (htame : Src.Tame s) :
    ∃ r1 s1 out e r' s' cx',
      r0.nextFrame s cx (some collect) = (some f0.h, none, r1, s1, cx)
      ∧ readsCb (some collect) r1 s1 cx ks = some (out, e, r', s', cx')
      ∧ (∃ more, dataPlain (f0 :: fs) = out ++ more)
      ∧ (e = none ∨ e = some .eof)
      ∧ (e = some .eof → out = dataPlain (f0 :: fs) ∧ s'.bytes = rest ∧ r'.state = r0.state ∧ r'.hasFrame = false
            ∧ cx' = { cx with msgs := cx.msgs ++ controls fs })
      ∧ (e = none → ∃ fs', cx'.msgs ++ controls fs' = cx.msgs ++ controls fs ∧ cx'.env = cx.env)
      ∧ (mu s < ks.length → e = some .eof) := by
  obtain ⟨s1, out, e, r', s', cx', pre, fs', hnext, hrd, hfs, hrun, _, h1, h2, h3, h4⟩ := message_reads_g handles_collect r0 s cx f0 fs
    rest ks hpos hnf hst hext hu8 hm trivial (fun _ _ _ => trivial) hb hwf htame
  -- what has been logged so far, followed by what the remaining frames will add, is the whole list
  have hlog : ctlLog fs' cx' = ctlLog fs cx := by rw [hfs, ctlLog_append, run_collect hrun]
  refine ⟨enter r0 f0.h, s1, out, e, r', s', cx', hnext, hrd, h1, h2, fun he => ?_, fun _ => ?_, h4⟩
  · obtain ⟨g1, g2, g3, g4, rfl⟩ := h3 he
    exact ⟨g1, g2, g4, g3.has, hlog.trans (ctlLog_spec fs cx)⟩
  · rw [ctlLog_spec, ctlLog_spec] at hlog
    injection hlog with e1 e2 e3
    exact ⟨fs', e2, e1⟩

example :
    (match exR0.nextFrame exSrc {} (some collect) with
     | (_, _, r1, s1, cx) => (readsCb (some collect) r1 s1 cx [1, 2, 64, 64, 64, 64, 64, 64, 64]).map
         fun (x : Bytes × Option RErr × Rd × Src × Ctx) => (x.1, x.2.1, x.2.2.2.2.msgs))
      = some ([0x68, 0x65, 0x6c, 0x6c, 0x6f], some .eof, [(9, exPing.plain)]) := by decide

example : controls [exPing, exF1, exF2] = [(9, exPing.plain)] := by decide

example : (readMessage 1 { chunks := [encodeFs [exPing]], fin := .eof }).1 = [(9, exPing.plain)] := by decide

theorem pull_message (skip : Bool) (st maxF : Nat) (rest : Bytes) (fuel : Nat) :
    ∀ (r : Rd) (s : Src) (cx : Ctx) (rem : Bytes) (fs0 : List WFrame) (acc : List Bytes),
      Sync false skip st maxF rest r s rem fs0 → weight r s < fuel →
      ∃ chunks r' s', Rd.pull true 512 (some collect) fuel r s cx acc = (acc.reverse ++ chunks, .eof, r', s', ctlLog fs0 cx)
        ∧ chunks.flatten = rem ∧ s'.bytes = rest ∧ Src.Tame s' := by
  intro r s cx rem fs0 acc hs hw
  obtain ⟨chunks, r', s', cx', hp, hfl, hb', ht', hrun, _⟩ := pull_g handles_collect skip st maxF rest 512 (by decide) fuel
    r s cx rem fs0 acc hs trivial (fun _ _ _ => trivial) hw
  exact ⟨chunks, r', s', run_collect hrun ▸ hp, hfl, hb', ht'⟩

/-- ioutil.ReadAll over a whole message, for any handler that copes with its interleaved control frames: NextFrame
    enters the first frame, the loop returns the message's data and no error, the transport stands behind the
    message, the handler has run over every control frame. -/
theorem readAll_message_g {cb : Option Callback} {S : CtlSpec} (hcb : Handles cb S)
    (r0 : Rd) (s : Src) (cx : Ctx) (f0 : WFrame) (fs : List WFrame) (rest : Bytes)
    (hnf : r0.fragmented = false) (hst : r0.state < 256) (hext : r0.ext = false) (hu8 : r0.checkUTF8 = false)
    (hm : Message r0 f0 fs) (hi : S.inv cx) (hg : ∀ f ∈ fs, opIsControl f.h.op = true → S.good f)
    (hb : s.bytes = encodeFs (f0 :: fs) ++ rest) (hwf : Bytes.WF s.bytes) (htame : Src.Tame s) :
    ∃ s1 r' s' cx', r0.nextFrame s cx cb = (some f0.h, none, enter r0 f0.h, s1, cx)
      ∧ readAllRd (enter r0 f0.h) s1 cx cb = (dataPlain (f0 :: fs), none, r', s', cx')
      ∧ s'.bytes = rest ∧ Run S.eff fs cx cx' ∧ S.inv cx' := by
  obtain ⟨s1, hnext, hsync, hmu1, _⟩ := enter_sync false r0 s cx cb f0 fs rest hnf hst hext hu8 hm.ok0 hm.data0 hm.acc0 hm.rest
    hb hwf htame
  obtain ⟨chunks, r', s', cx', hp, hfl, hb', _, hrun, hi'⟩ :=
    pull_g hcb r0.skipCheck (stSet r0.state stFragmented) r0.maxFrame rest 512 (by decide) (pullFuel s1) (enter r0 f0.h) s1 cx _ fs []
      hsync hi hg (by simpa [weight, enter] using pullFuel_gt s1)
  refine ⟨s1, r', s', cx', hnext, ?_, hb', hrun, hi'⟩
  unfold readAllRd
  rw [hp]
  simp [hfl]

/-- ioutil.ReadAll over a whole message with the handler wsutil.ReadMessage installs (the loop ReadMessage uses for
    fragmented messages): the message's data, no error, the control frames logged in stream order, the transport
    behind the message. -/
theorem readAll_message (r0 : Rd) (s : Src) (cx : Ctx) (f0 : WFrame) (fs : List WFrame) (rest : Bytes)
    (hnf : r0.fragmented = false) (hst : r0.state < 256)
    (hext : r0.ext = false) (hu8 : r0.checkUTF8 = false)
    (hm : Message r0 f0 fs)
    (hb : s.bytes = encodeFs (f0 :: fs) ++ rest) (hwf : Bytes.WF s.bytes) (htame : Src.Tame s) :
    ∃ r1 s1 r' s',
      r0.nextFrame s cx (some collect) = (some f0.h, none, r1, s1, cx)
      ∧ readAllRd r1 s1 cx (some collect) = (dataPlain (f0 :: fs), none, r', s', { cx with msgs := cx.msgs ++ controls fs })
      ∧ s'.bytes = rest := by
  obtain ⟨s1, r', s', cx', hnext, hall, hb', hrun, _⟩ := readAll_message_g handles_collect r0 s cx f0 fs rest hnf hst hext hu8 hm trivial
    (fun _ _ _ => trivial) hb hwf htame
  exact ⟨_, s1, r', s', hnext, by rw [hall, run_collect hrun, ctlLog_spec], hb'⟩

/-- The same without a handler (plain `wsutil.Reader` + ReadAll): interleaved control frames are skipped. -/
theorem readAll_message_plain (r0 : Rd) (s : Src) (cx : Ctx) (f0 : WFrame) (fs : List WFrame) (rest : Bytes)
    (hnf : r0.fragmented = false) (hst : r0.state < 256)
    (hext : r0.ext = false) (hu8 : r0.checkUTF8 = false)
    (hm : Message r0 f0 fs)
    (hb : s.bytes = encodeFs (f0 :: fs) ++ rest) (hwf : Bytes.WF s.bytes) (htame : Src.Tame s) :
    ∃ r1 s1 r' s',
      r0.nextFrame s cx none = (some f0.h, none, r1, s1, cx)
      ∧ readAllRd r1 s1 cx none = (dataPlain (f0 :: fs), none, r', s', cx)
      ∧ s'.bytes = rest := by
  obtain ⟨s1, r', s', cx', hnext, hall, hb', hrun, _⟩ := readAll_message_g handles_none r0 s cx f0 fs rest hnf hst hext hu8 hm trivial
    (fun _ _ _ => trivial) hb hwf htame
  cases run_none hrun
  exact ⟨_, s1, r', s', hnext, hall, hb'⟩

example :
    (match exR0.nextFrame exSrc {} (some collect) with
     | (_, _, r1, s1, cx) =>
       let x := readAllRd r1 s1 cx (some collect)
       (x.1, x.2.1, x.2.2.2.1.bytes, x.2.2.2.2.msgs))
      = ([0x68, 0x65, 0x6c, 0x6c, 0x6f], none, [0x81, 0x85], [(9, exPing.plain)]) := by decide

end Ws.C04
