/-
  C05 — Message reader rejects a protocol violation at the first offending frame.

  At one NextFrame (`nextFrame_rejects`, `toolarge_before_payload`), over a stream (`reject_at_first_bad`,
  `first_frame_rejected`) and through Discard (`discard_refuses_later`); `RefusedWith` is what "offending" means.
  Covered at stream level as for C04.message_delivered: no receive extension, CheckUTF8 off, OnIntermediate unset.
-/
import WsVerif.Props.C03
import WsVerif.Props.C04
namespace Ws.C05
open Ws Ws.Spec

/-- A frame whose header breaks a rule in the reader's current state is refused with that protocol
    error, the reader state is untouched, and not one payload byte has been read: the transport
    is positioned right after the header. -/
theorem nextFrame_rejects (r : Rd) (s s1 : Src) (cx : Ctx) (cb : Option Callback) (hdr : Header)
    (pe : ProtoErr) (hh : readHeaderUtil s = (.ok hdr, s1)) (hskip : r.skipCheck = false)
    (hc : checkHeader hdr r.state = some pe) :
    r.nextFrame s cx cb = (some hdr, some (.proto pe), r, s1, cx) := by
  rw [NF.nextFrame_ok hh, NF.accept_error (NF.gate_proto hskip hc)]

/-- The error it reports names a rule the frame really breaks given the state built up so far: `C03.check_some_sound`
    at the reader's state. -/
theorem nextFrame_error_sound (r : Rd) (hdr : Header) (pe : ProtoErr) (hop : hdr.op < 16)
    (hst : r.state < 256) (hc : checkHeader hdr r.state = some pe) :
    ∃ rule, ruleOf pe = some rule ∧ Broken rule hdr (stOf r.state) :=
  C03.check_some_sound hdr r.state hop hst pe hc

/-- A frame announcing more than MaxFrameSize is refused before its payload is touched. -/
theorem toolarge_before_payload (r : Rd) (s s1 : Src) (cx : Ctx) (cb : Option Callback) (hdr : Header)
    (hh : readHeaderUtil s = (.ok hdr, s1))
    (hc : (if r.skipCheck then none else checkHeader hdr r.state) = none)
    (hmax : r.maxFrame > 0) (hbig : hdr.len > r.maxFrame) :
    r.nextFrame s cx cb = (some hdr, some .tooLarge, r, s1, cx) := by
  rw [NF.nextFrame_ok hh, NF.accept_error (NF.gate_tooLarge hc hmax hbig)]

/-- Accepting a data frame (no extension attached) installs it as the current frame and makes the
    fragmentation state track exactly "an unfinished data message is open". -/
theorem accept_data_frame (r : Rd) (s s1 : Src) (cx : Ctx) (cb : Option Callback) (hdr : Header)
    (hh : readHeaderUtil s = (.ok hdr, s1))
    (hc : (if r.skipCheck then none else checkHeader hdr r.state) = none)
    (hmax : ¬ (r.maxFrame > 0 ∧ hdr.len > r.maxFrame)) (hext : r.ext = false)
    (hdata : opIsControl hdr.op = false) :
    ∃ r', r.nextFrame s cx cb = (some hdr, none, r', s1, cx)
      ∧ r'.hasFrame = true ∧ r'.rawN = hdr.len ∧ r'.masked = hdr.masked ∧ r'.mask = hdr.mask ∧ r'.cpos = 0
      ∧ r'.state = (if hdr.fin then stClear r.state stFragmented else stSet r.state stFragmented)
      ∧ r'.opCode = (if r.fragmented then r.opCode else hdr.op) := by
  refine ⟨_, RdProof.nextFrame_data r s s1 cx cb hdr hh ⟨hc, hmax⟩ hext hdata, ?_⟩
  simp [RdProof.enter]

open Ws.RdProof

/-- the two ways NextFrame refuses header `h`: the header check's protocol error (unless SkipHeaderCheck), or
    ErrFrameTooLarge for a length over MaxFrameSize -/
def RefusedWith (skip : Bool) (st maxF : Nat) (h : Header) (err : RErr) : Prop :=
  (skip = false ∧ ∃ pe, checkHeader h st = some pe ∧ err = .proto pe)
  ∨ ((if skip then none else checkHeader h st) = none ∧ maxF > 0 ∧ h.len > maxF ∧ err = .tooLarge)

theorem nextFrame_refuses (r : Rd) (s : Src) (cx : Ctx) (cb : Option Callback) (h : Header) (junk : Bytes) (err : RErr)
    (hw : h.WF) (hb : s.bytes = rfcEncode h ++ junk) (hwf : Bytes.WF s.bytes) (htame : Src.Tame s)
    (hrej : RefusedWith r.skipCheck r.state r.maxFrame h err) :
    ∃ s1, r.nextFrame s cx cb = (some h, some err, r, s1, cx) ∧ s1.bytes = junk := by
  obtain ⟨s1, hrh, hb1, _⟩ := readHeader_at h hw junk s hb hwf htame
  refine ⟨s1, ?_, hb1⟩
  rcases hrej with ⟨hs, pe, hc, he⟩ | ⟨hc, hm, hl, he⟩
  · subst he; exact nextFrame_rejects r s s1 cx cb h pe hrh hs hc
  · subst he; exact toolarge_before_payload r s s1 cx cb h hrh hc hm hl

/-- An offending frame where a message should start, off any chunking of the transport: refused by NextFrame, nothing
    read of it. -/
theorem first_frame_rejected (r : Rd) (s : Src) (cx : Ctx) (h : Header) (junk : Bytes) (err : RErr)
    (hw : h.WF) (hb : s.bytes = rfcEncode h ++ junk) (hjw : Bytes.WF junk) (htame : Src.Tame s)
    (hrej : RefusedWith r.skipCheck r.state r.maxFrame h err) :
    ∃ s1, r.nextFrame s cx none = (some h, some err, r, s1, cx) ∧ s1.bytes = junk :=
  nextFrame_refuses r s cx none h junk err hw hb (hb ▸ Bytes.wf_append.mpr ⟨C01.rfcEncode_wf h hw, hjw⟩) htame hrej

theorem read_at_end_refuses (ao skip : Bool) (st maxF : Nat) (r : Rd) (s : Src) (cx : Ctx) (k : Nat) (h : Header)
    (junk : Bytes) (err : RErr) (hend : AtEnd ao skip st maxF (rfcEncode h ++ junk) r s [])
    (hw : h.WF) (hrej : RefusedWith skip st maxF h err) :
    ∃ s1, r.read s cx k none = some ([], 0, some err, r, s1, cx) ∧ s1.bytes = junk := by
  have hc := hend.common
  have hrej' : RefusedWith r.skipCheck r.state r.maxFrame h err := by
    rw [hc.skip, hend.state, hc.maxF]; exact hrej
  obtain ⟨s1, hnf, hb1⟩ := nextFrame_refuses r s cx none h junk err hw hend.bytes hc.wf hc.tame hrej'
  exact ⟨s1, read_refused k hend.has (hc.frag hend.state) hnf, hb1⟩

/-- C05, stream level. `f0 :: fs` are the valid frames of a message (any fragments and interleaved control frames);
    then comes a frame with header `hbad` that the reader must refuse (a framing rule broken in the state built up so
    far, or a length over MaxFrameSize). For every transport chunking and every sequence of caller buffer sizes,
    either the Reads are still inside the valid frames (a prefix of their data, no error other than the message's
    io.EOF), or they have delivered exactly the data of the valid frames and the Read that reached the offending
    frame returned the protocol error (resp. ErrFrameTooLarge), the transport standing right behind the offending
    header: not one payload byte of it was read. -/
theorem reject_at_first_bad (r0 : Rd) (s : Src) (cx : Ctx) (f0 : WFrame) (fs : List WFrame) (hbad : Header)
    (junk : Bytes) (err : RErr) (ks : List Nat) (hpos : ∀ k ∈ ks, 0 < k)
    (hidle : r0.hasFrame = false) (hnf : r0.fragmented = false) (hst : r0.state < 256)
    (hext : r0.ext = false) (hu8 : r0.checkUTF8 = false)
    (hok0 : f0.OK) (hdata0 : opIsControl f0.h.op = false) (hfin0 : f0.h.fin = false)
    (hacc0 : AcceptsAt r0.skipCheck r0.state r0.maxFrame f0.h)
    (htail : Tail true r0.skipCheck (stSet r0.state stFragmented) r0.maxFrame fs)
    (hbw : hbad.WF) (hrej : RefusedWith r0.skipCheck (stSet r0.state stFragmented) r0.maxFrame hbad err)
    (hb : s.bytes = encodeFs (f0 :: fs) ++ (rfcEncode hbad ++ junk)) (hwf : Bytes.WF s.bytes) (htame : Src.Tame s) :
    ∃ r1 s1, r0.nextFrame s cx none = (some f0.h, none, r1, s1, cx) ∧ r1.hasFrame = true ∧
      ((∃ out e r' s', reads r1 s1 cx ks = some (out, e, r', s', cx)
          ∧ (∃ more, dataPlain (f0 :: fs) = out ++ more)
          ∧ (e = none ∨ e = some .eof))
       ∨ (∃ r' s', reads r1 s1 cx ks = some (dataPlain (f0 :: fs), some err, r', s', cx) ∧ s'.bytes = junk)) := by
  let rest := rfcEncode hbad ++ junk
  let st := stSet r0.state stFragmented
  obtain ⟨s1, hnext, hsync, _, _⟩ := C04.enter_sync true r0 s cx none f0 fs rest hnf hst hext hu8 hok0 hdata0 hacc0
    (by rw [hfin0]; exact htail) hb hwf htame
  refine ⟨enter r0 f0.h, s1, hnext, rfl, ?_⟩
  rcases reads_sync true r0.skipCheck st r0.maxFrame rest ks hpos _ s1 cx _ _ hsync with
    ⟨out, e, r', s', hrd, hcase⟩ | ⟨ks1, k2, ks2, out1, r1, s2, hks, hrd1, hrem, hend⟩
  · left
    refine ⟨out, e, r', s', hrd, ?_, ?_⟩
    · rcases hcase with ⟨_, rem', _, h1, _, _⟩ | ⟨_, h1, _⟩
      · exact ⟨rem', h1⟩
      · exact ⟨[], by rw [h1]; simp⟩
    · rcases hcase with ⟨h1, _⟩ | ⟨h1, _, _, _, _⟩
      · exact Or.inl h1
      · exact Or.inr h1
  · right
    obtain ⟨s3, hread, hb3⟩ := read_at_end_refuses true r0.skipCheck st r0.maxFrame r1 s2 cx k2 hbad junk err hend hbw hrej
    refine ⟨r1, s3, ?_, hb3⟩
    rw [hks, reads_append _ _ _ ks1 (k2 :: ks2) out1 r1 s2 cx hrd1]
    simp only [reads, hread, List.take_nil, Option.map_some, List.append_nil]
    rw [hrem]

/-- C05 / C13: an extension attached to the reader does not by itself lift the RSV rule. While the reader's State does
    not say that extensions were negotiated, a frame with any reserved bit set is refused by the header check, at its
    header, whatever `Reader.Extensions` holds: the extension never gets to see (and clear) the bit. -/
theorem rsv_refused_without_negotiation (r : Rd) (s s1 : Src) (cx : Ctx) (cb : Option Callback) (hdr : Header)
    (hh : readHeaderUtil s = (.ok hdr, s1)) (hskip : r.skipCheck = false)
    (hop : hdr.op < 16) (hst : r.state < 256)
    (hrsv : hdr.rsv ≠ 0) (hne : (stOf r.state).extended = false) :
    ∃ pe, r.nextFrame s cx cb = (some hdr, some (.proto pe), r, s1, cx) := by
  cases hc : checkHeader hdr r.state with
  | none =>
    have := (C03.check_none_iff hdr r.state hop hst).mp hc .rsvWithoutExtension
    exact absurd ⟨hrsv, hne⟩ this
  | some pe => exact ⟨pe, nextFrame_rejects r s s1 cx cb hdr pe hh hskip hc⟩

/-- The masking rule does not look at the payload: a frame with the wrong MASK bit for the side that reads
    it is refused at its header whatever length it announces — zero included (an empty final fragment, an
    empty ping). -/
theorem wrong_mask_refused (r : Rd) (s s1 : Src) (cx : Ctx) (cb : Option Callback) (hdr : Header)
    (hh : readHeaderUtil s = (.ok hdr, s1)) (hskip : r.skipCheck = false)
    (hop : hdr.op < 16) (hst : r.state < 256)
    (hm : ((stOf r.state).server = true ∧ hdr.masked = false) ∨ ((stOf r.state).client = true ∧ hdr.masked = true)) :
    ∃ pe, r.nextFrame s cx cb = (some hdr, some (.proto pe), r, s1, cx) := by
  cases hc : checkHeader hdr r.state with
  | none =>
    rcases hm with hm | hm
    · exact absurd hm ((C03.check_none_iff hdr r.state hop hst).mp hc .serverGotUnmasked)
    · exact absurd hm ((C03.check_none_iff hdr r.state hop hst).mp hc .clientGotMasked)
  | some pe => exact ⟨pe, nextFrame_rejects r s s1 cx cb hdr pe hh hskip hc⟩

/-- an unmasked empty final continuation closing a fragmented message on a server -/
example :
    (Rd.nextFrame { state := 9 } { chunks := [[0x80, 0x00]], fin := .eof } {} none).2.1 = some (.proto .maskRequired) := by rfl

/-- a server-side reader (state 1: not extended) with the compression extension attached, given a masked final text
    frame with RSV1 -/
example :
    (Rd.nextFrame { state := 1, ext := true } { chunks := [[0xc1, 0x80, 1, 2, 3, 4]], fin := .eof } {} none).2.1
      = some (.proto .nonZeroRsv) := by rfl

theorem discard_refuses_later (skip : Bool) (st maxF : Nat) (cx : Ctx) (hbad : Header) (junk : Bytes) {err : RErr}
    (hw : hbad.WF) (hrej : RefusedWith skip st maxF hbad err)
    (fs : List WFrame) (ht : Tail true skip st maxF fs) (hopen : closed fs = false)
    (r : Rd) (s : Src) (wire : Bytes)
    (hc : Common skip st maxF r s) (hst : r.state = st) (hn : r.rawN = wire.length)
    (hb : s.bytes = wire ++ (encodeFs fs ++ (rfcEncode hbad ++ junk))) :
    (r.discard s cx none (fs.length + 3)).1 = some err := by
  obtain ⟨r1, s1, cx1, hc1, hst1, hb1, _, hrun, _, _, herr⟩ := discard_to_next handles_none (rfcEncode hbad ++ junk) ht hopen 2
    r s wire cx (fun _ _ _ => trivial) hc.cfg hst hn hb trivial
  cases run_none hrun
  obtain ⟨s2, hnf, _⟩ := nextFrame_refuses r1 s1 cx none hbad junk err hw hb1 hc1.wf hc1.tame
    (by rw [hc1.skip, hst1, hc1.maxF]; exact hrej)
  rw [show fs.length + 3 = 2 + 1 + fs.length by omega, herr _ _ _ _ _ hnf]

/-- C05: skipping is no way around a protocol violation. Discard, called anywhere inside a message whose later frame
    breaks a framing rule (after any number of valid fragments and interleaved control frames), returns that protocol
    error: it does not skip past the offending frame. -/
theorem discard_rejects_later_bad (st maxF : Nat) (cx : Ctx) (hbad : Header) (junk : Bytes) (pe : ProtoErr)
    (hw : hbad.WF) (hcheck : checkHeader hbad st = some pe)
    (fs : List WFrame) (ht : Tail true false st maxF fs) (hopen : closed fs = false)
    (r : Rd) (s : Src) (wire : Bytes)
    (hc : Common false st maxF r s) (hst : r.state = st) (hn : r.rawN = wire.length)
    (hb : s.bytes = wire ++ (encodeFs fs ++ (rfcEncode hbad ++ junk))) :
    (r.discard s cx none (fs.length + 3)).1 = some (.proto pe) :=
  discard_refuses_later false st maxF cx hbad junk hw (Or.inl ⟨rfl, pe, hcheck, rfl⟩) fs ht hopen r s wire hc hst hn hb

/-- Discard from inside a message whose later frame announces more than MaxFrameSize: ErrFrameTooLarge, from its
    header alone (whatever `junk` follows, however short). -/
theorem discard_rejects_later_toolarge (skip : Bool) (st maxF : Nat) (cx : Ctx) (hbig : Header) (junk : Bytes)
    (hw : hbig.WF) (hcheck : (if skip then none else checkHeader hbig st) = none) (hmax : maxF > 0) (hlen : hbig.len > maxF)
    (fs : List WFrame) (ht : Tail true skip st maxF fs) (hopen : closed fs = false)
    (r : Rd) (s : Src) (wire : Bytes)
    (hc : Common skip st maxF r s) (hst : r.state = st) (hn : r.rawN = wire.length)
    (hb : s.bytes = wire ++ (encodeFs fs ++ (rfcEncode hbig ++ junk))) :
    (r.discard s cx none (fs.length + 3)).1 = some .tooLarge :=
  discard_refuses_later skip st maxF cx hbig junk hw (Or.inr ⟨hcheck, hmax, hlen, rfl⟩) fs ht hopen r s wire hc hst hn hb

/-- With the frames of Props/C04: first fragment and a ping complete, then a new text frame (0x81: a data frame while a
    message is open). -/
example :
    (match C04.exR0.nextFrame { chunks := [encodeFs [C04.exF0, C04.exPing], [0x81, 0x80, 0, 0, 0, 0, 0x8a]], fin := .eof } {} none with
     | (_, _, r1, s1, cx) => (r1.discard s1 cx none 4).1) = some (.proto .continuationExpected) := by decide

end Ws.C05
