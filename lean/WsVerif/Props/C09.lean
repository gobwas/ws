/-
  C09 — Server handshake succeeds only for compliant requests and answers correctly.

  Stated on the model of server.go (Model/Upgrader.lean), which the correspondence run (`up`/`hup` ops) and
  the generated facts tie to the code. The header loop is read as a fold over parsed lines (`runHeaders`);
  soundness and completeness of the decision are statements about that fold. `upgrade_success_sound`
  concludes that a request line and a list of header lines exist which the decision accepts and from whose
  fold the handshake returned and the 101 written are built; that they are the lines of the bytes received
  is not in its conclusion. Completeness is partial: it starts from parsed lines — the step from bytes to
  lines (readLine) is C11's.
-/
import WsVerif.Model.Upgrader
import WsVerif.Proofs.Seen
namespace Ws.C09
open Ws Ws.Lex

def runHeaders (cfg : UpCfg) : List (Bytes × Bytes) → UpState → UpState × Option HsErr
  | [], st => (st, none)
  | (k, v) :: r, st =>
    match (upHeader cfg st k v).2 with
    | some e => ((upHeader cfg st k v).1, some e)
    | none => runHeaders cfg r (upHeader cfg st k v).1

theorem runHeaders_cons_ok {cfg : UpCfg} {k v : Bytes} {st st' : UpState} (h : upHeader cfg st k v = (st', none))
    (r : List (Bytes × Bytes)) : runHeaders cfg ((k, v) :: r) st = runHeaders cfg r st' := by
  simp only [runHeaders, h]

theorem hdrLoop_history {cfg : UpCfg} {fuel : Nat} {b b' : Bufio} {st st' : UpState} {err : Option HsErr}
    (h : hdrLoop cfg fuel b st err = .inr (st', none, b')) :
    err = none ∧ ∃ hist, runHeaders cfg hist st = (st', none) := by
  -- the ways through one round: no fuel, entered with an error, transport error, blank line,
  -- unparsable line, a header line (the only one that goes round again)
  fun_induction hdrLoop cfg fuel b st err
  case case2 he => cases h; cases he
  case case4 => cases h; exact ⟨Option.not_isSome_iff_eq_none.mp ‹_›, [], rfl⟩
  case case6 k v _ ih =>
    obtain ⟨hk, hist, hh⟩ := ih h
    exact ⟨Option.not_isSome_iff_eq_none.mp ‹_›, (k, v) :: hist, by rw [runHeaders, hk]; exact hh⟩
  all_goals cases h

def kHost := strBytes "Host"
def kUpgrade := strBytes "Upgrade"
def kConnection := strBytes "Connection"
def kVersion := strBytes "Sec-Websocket-Version"
def kKey := strBytes "Sec-Websocket-Key"
def kProtocol := strBytes "Sec-Websocket-Protocol"
def kExtensions := strBytes "Sec-Websocket-Extensions"

/-- The model spells the names out; the statements here use the constants. -/
theorem hdr_names : strBytes "Host" = kHost ∧ strBytes "Upgrade" = kUpgrade ∧ strBytes "Connection" = kConnection
    ∧ strBytes "Sec-Websocket-Version" = kVersion ∧ strBytes "Sec-Websocket-Key" = kKey
    ∧ strBytes "Sec-Websocket-Protocol" = kProtocol ∧ strBytes "Sec-Websocket-Extensions" = kExtensions :=
  ⟨rfl, rfl, rfl, rfl, rfl, rfl, rfl⟩

/-- The headerSeen bit a (canonical) header name owns. -/
def bitOf (k : Bytes) : Nat :=
  if k = kHost then seenHost else if k = kUpgrade then seenUpgrade else if k = kConnection then seenConnection
  else if k = kVersion then seenSecVersion else if k = kKey then seenSecKey else 0

/-- What server.go checks on one occurrence of a mandatory header. -/
def lineGood (k v : Bytes) : Prop :=
  (k = kUpgrade → equalFold v (strBytes "websocket") = true) ∧
  (k = kConnection → (v = strBytes "Upgrade" ∨ btsHasToken v (strBytes "upgrade") = true)) ∧
  (k = kVersion → v = strBytes "13") ∧
  (k = kKey → v.length = 24)

/-- Each pair in both orders, so that `simp [keys_distinct]` settles every comparison between two of the names. -/
theorem keys_distinct :
    kHost ≠ kUpgrade ∧ kHost ≠ kConnection ∧ kHost ≠ kVersion ∧ kHost ≠ kKey
    ∧ kUpgrade ≠ kHost ∧ kUpgrade ≠ kConnection ∧ kUpgrade ≠ kVersion ∧ kUpgrade ≠ kKey
    ∧ kConnection ≠ kHost ∧ kConnection ≠ kUpgrade ∧ kConnection ≠ kVersion ∧ kConnection ≠ kKey
    ∧ kVersion ≠ kHost ∧ kVersion ≠ kUpgrade ∧ kVersion ≠ kConnection ∧ kVersion ≠ kKey
    ∧ kKey ≠ kHost ∧ kKey ≠ kUpgrade ∧ kKey ≠ kConnection ∧ kKey ≠ kVersion := by decide +kernel

theorem upHeader_host (cfg : UpCfg) (st : UpState) (v : Bytes) :
    upHeader cfg st kHost v = ({ st with seen := st.seen ||| seenHost }, cfg.onHost) := by
  unfold upHeader
  simp only [hdr_names, if_true]

theorem upHeader_upgrade (cfg : UpCfg) (st : UpState) (v : Bytes) :
    upHeader cfg st kUpgrade v = ({ st with seen := st.seen ||| seenUpgrade },
      if equalFold v (strBytes "websocket") then none else some errBadUpgrade) := by
  unfold upHeader
  simp only [hdr_names, keys_distinct, if_false, if_true]

theorem upHeader_connection (cfg : UpCfg) (st : UpState) (v : Bytes) :
    upHeader cfg st kConnection v = ({ st with seen := st.seen ||| seenConnection },
      if v = strBytes "Upgrade" || btsHasToken v (strBytes "upgrade") then none else some errBadConnection) := by
  unfold upHeader
  simp only [hdr_names, keys_distinct, if_false, if_true]

theorem upHeader_version (cfg : UpCfg) (st : UpState) (v : Bytes) :
    upHeader cfg st kVersion v = ({ st with seen := st.seen ||| seenSecVersion },
      if v = strBytes "13" then none else some errUpgradeRequired) := by
  unfold upHeader
  simp only [hdr_names, keys_distinct, if_false, if_true]

theorem upHeader_key (cfg : UpCfg) (st : UpState) (v : Bytes) :
    upHeader cfg st kKey v = if v.length ≠ 24 then ({ st with seen := st.seen ||| seenSecKey }, some errBadSecKey)
      else ({ st with seen := st.seen ||| seenSecKey, nonce := v }, none) := by
  unfold upHeader
  simp only [hdr_names, keys_distinct, if_false, if_true]

theorem upHeader_other (cfg : UpCfg) (st : UpState) {k : Bytes} (v : Bytes) (h1 : k ≠ kHost) (h2 : k ≠ kUpgrade)
    (h3 : k ≠ kConnection) (h4 : k ≠ kVersion) (h5 : k ≠ kKey) :
    (upHeader cfg st k v).1.seen = st.seen ∧ (upHeader cfg st k v).1.nonce = st.nonce := by
  -- the first six cases are the five names (the key twice: bad length, good length)
  fun_cases upHeader cfg st k v
  case case1 h => exact absurd h h1
  case case2 h => exact absurd h h2
  case case3 h => exact absurd h h3
  case case4 h => exact absurd h h4
  case case5 h _ => exact absurd h h5
  case case6 h _ => exact absurd h h5
  all_goals exact ⟨rfl, rfl⟩

theorem upHeader_ok (cfg : UpCfg) (st : UpState) (k v : Bytes) (h : (upHeader cfg st k v).2 = none) :
    lineGood k v ∧ (upHeader cfg st k v).1.seen = st.seen ||| bitOf k
      ∧ (upHeader cfg st k v).1.nonce = (if k = kKey then v else st.nonce)
      ∧ (k = kHost → cfg.onHost = none) := by
  rcases five_cases k kHost kUpgrade kConnection kVersion kKey with rfl | rfl | rfl | rfl | rfl | ⟨h1, h2, h3, h4, h5⟩
  · rw [upHeader_host] at h ⊢
    simpa [lineGood, bitOf, keys_distinct] using h
  · rw [upHeader_upgrade] at h ⊢
    simpa [lineGood, bitOf, keys_distinct] using h
  · rw [upHeader_connection] at h ⊢
    simp only [ite_eq_left_iff, reduceCtorEq, imp_false, Decidable.not_not] at h
    simpa [lineGood, bitOf, keys_distinct] using h
  · rw [upHeader_version] at h ⊢
    simpa [lineGood, bitOf, keys_distinct] using h
  · rw [upHeader_key] at h ⊢
    by_cases hl : v.length = 24 <;> simp [hl] at h
    simp [lineGood, bitOf, keys_distinct, hl]
  · obtain ⟨hs, hn⟩ := upHeader_other cfg st v h1 h2 h3 h4 h5
    simp [lineGood, bitOf, hs, hn, h1, h2, h3, h4, h5]

def lastKey (hist : List (Bytes × Bytes)) (dflt : Bytes) : Bytes :=
  hist.foldl (fun n kv => if kv.1 = kKey then kv.2 else n) dflt

theorem runHeaders_sound (cfg : UpCfg) (hist : List (Bytes × Bytes)) (st st' : UpState)
    (h : runHeaders cfg hist st = (st', none)) :
    (∀ kv ∈ hist, lineGood kv.1 kv.2)
      ∧ st'.seen = hist.foldl (fun a kv => a ||| bitOf kv.1) st.seen
      ∧ st'.nonce = lastKey hist st.nonce
      ∧ ((∃ kv ∈ hist, kv.1 = kHost) → cfg.onHost = none) := by
  -- no line left; the first line refused; the first line accepted
  fun_induction runHeaders cfg hist st with
  | case1 st => cases h; exact ⟨nofun, rfl, rfl, nofun⟩
  | case2 => cases h
  | case3 k v r st he ih =>
    obtain ⟨g, s, n, ho⟩ := upHeader_ok cfg st k v he
    obtain ⟨i1, i2, i3, i4⟩ := ih h
    refine ⟨List.forall_mem_cons.mpr ⟨g, i1⟩, by rw [i2, s]; rfl, by rw [i3, n]; rfl, ?_⟩
    rintro ⟨kv, hkv, hk⟩
    rcases List.mem_cons.mp hkv with rfl | hm
    · exact ho hk
    · exact i4 ⟨kv, hm, hk⟩

theorem bitOf_testBit (k : Bytes) :
    ((bitOf k).testBit 0 = true ↔ k = kHost) ∧ ((bitOf k).testBit 1 = true ↔ k = kUpgrade)
    ∧ ((bitOf k).testBit 2 = true ↔ k = kConnection) ∧ ((bitOf k).testBit 3 = true ↔ k = kVersion)
    ∧ ((bitOf k).testBit 4 = true ↔ k = kKey) := by
  rcases five_cases k kHost kUpgrade kConnection kVersion kKey with rfl | rfl | rfl | rfl | rfl | ⟨h1, h2, h3, h4, h5⟩ <;>
    simp [bitOf, keys_distinct, seenHost, seenUpgrade, seenConnection, seenSecVersion, seenSecKey, Nat.testBit, *]

theorem bitOf_lt (k : Bytes) : bitOf k < 2 ^ 5 := by
  fun_cases bitOf k <;> decide

/-- `headerSeen == headerSeenAll` says exactly that each of the five headers occurred. -/
theorem seenAll_iff (hist : List (Bytes × Bytes)) :
    hist.foldl (fun a kv => a ||| bitOf kv.1) 0 = seenAll ↔
      (∃ kv ∈ hist, kv.1 = kHost) ∧ (∃ kv ∈ hist, kv.1 = kUpgrade) ∧ (∃ kv ∈ hist, kv.1 = kConnection)
        ∧ (∃ kv ∈ hist, kv.1 = kVersion) ∧ (∃ kv ∈ hist, kv.1 = kKey) := by
  rw [show seenAll = 2 ^ 5 - 1 from rfl, seen_full_iff _ hist 5 fun kv => bitOf_lt kv.1]
  simp only [Nat.forall_lt_succ_right, Nat.not_lt_zero, false_imp_iff, implies_true, true_and, bitOf_testBit, and_assoc]

/-- What "a compliant request and no objecting callback" means for the parsed head. -/
structure Compliant (cfg : UpCfg) (method : Bytes) (major minor : Nat) (hist : List (Bytes × Bytes)) : Prop where
  get : method = strBytes "GET"
  version : major = 1 ∧ 1 ≤ minor
  onRequest : cfg.onRequest = none
  onHost : cfg.onHost = none
  host : ∃ kv ∈ hist, kv.1 = kHost
  upgrade : ∃ kv ∈ hist, kv.1 = kUpgrade
  connection : ∃ kv ∈ hist, kv.1 = kConnection
  secVersion : ∃ kv ∈ hist, kv.1 = kVersion
  key : ∃ kv ∈ hist, kv.1 = kKey
  values : ∀ kv ∈ hist, lineGood kv.1 kv.2
  before : ∀ e, cfg.onBeforeUpgrade ≠ some (.inr e)

theorem upRequestLine_eq_none_iff (cfg : UpCfg) (m : Bytes) (ma mi : Nat) :
    upRequestLine cfg m ma mi = none ↔ m = strBytes "GET" ∧ (ma = 1 ∧ 1 ≤ mi) ∧ cfg.onRequest = none := by
  simp only [upRequestLine, ite_some_eq_none, ne_eq, Decidable.not_not, not_or, Nat.not_lt]
  exact ⟨fun ⟨v, g, r⟩ => ⟨g, v, r⟩, fun ⟨g, v, r⟩ => ⟨v, g, r⟩⟩

theorem upFinish_eq_none_iff (cfg : UpCfg) (st : UpState) (err : Option HsErr) (extra : Bytes) :
    upFinish cfg st err = (none, extra) ↔ err = none ∧ st.seen = seenAll
      ∧ (cfg.onBeforeUpgrade = none ∧ extra = [] ∨ cfg.onBeforeUpgrade = some (.inl extra)) := by
  unfold upFinish
  cases err with
  | some e => simp
  | none =>
    by_cases hs : st.seen = seenAll
    · simp only [hs, ne_eq, not_true, if_false, true_and]
      cases cfg.onBeforeUpgrade with
      | none => simp [eq_comm]
      | some x => cases x <;> simp [eq_comm]
    · simp [hs]

/-- A line no check and no callback objects to and, if it is one of the two optional headers, for which no
    selector is configured (a selector refuses a malformed value). -/
def lineOk (cfg : UpCfg) (k v : Bytes) : Prop :=
  lineGood k v ∧ (k = kHost → cfg.onHost = none) ∧ (k = kProtocol → cfg.protocols = none)
    ∧ (k = kExtensions → cfg.negotiate = none ∧ cfg.extension = none)
    ∧ (k = cfg.onHeaderKey → cfg.onHeader = none)

theorem upHeader_complete (cfg : UpCfg) (st : UpState) (k v : Bytes) (h : lineOk cfg k v) :
    (upHeader cfg st k v).2 = none := by
  obtain ⟨⟨g1, g2, g3, g4⟩, o1, o2, o3, o4⟩ := h
  rcases five_cases k kHost kUpgrade kConnection kVersion kKey with rfl | rfl | rfl | rfl | rfl | ⟨h1, h2, h3, h4, h5⟩
  · rw [upHeader_host]; exact o1 rfl
  · rw [upHeader_upgrade, if_pos (g1 rfl)]
  · rw [upHeader_connection, if_pos (by simpa using g2 rfl)]
  · rw [upHeader_version, if_pos (g3 rfl)]
  · rw [upHeader_key, if_neg (not_not_intro (g4 rfl))]
  · -- none of the five: the two optional headers, then OnHeader
    unfold upHeader
    simp only [hdr_names, if_neg h1, if_neg h2, if_neg h3, if_neg h4, if_neg h5]
    by_cases h6 : k = kProtocol
    · simp [h6, o2 h6]
    rw [if_neg h6]
    by_cases h7 : k = kExtensions
    · simp [h7, (o3 h7).1, (o3 h7).2]
    rw [if_neg h7]
    by_cases h8 : k = cfg.onHeaderKey
    · simp [h8, o4 h8]
    · simp [h8]

theorem runHeaders_complete (cfg : UpCfg) (hist : List (Bytes × Bytes)) (st : UpState)
    (h : ∀ kv ∈ hist, lineOk cfg kv.1 kv.2) : ∃ st', runHeaders cfg hist st = (st', none) := by
  induction hist generalizing st with
  | nil => exact ⟨st, rfl⟩
  | cons kv r ih =>
    obtain ⟨k, v⟩ := kv
    have := upHeader_complete cfg st k v (h (k, v) List.mem_cons_self)
    obtain ⟨st', hs⟩ := ih (upHeader cfg st k v).1 (fun kv hkv => h kv (List.mem_cons_of_mem _ hkv))
    exact ⟨st', by simp [runHeaders, this, hs]⟩

/-- Completeness of the decision, from parsed lines: for a GET with HTTP/1.x (x ≥ 1) whose header
    lines are all acceptable (`lineOk`) and include the five mandatory headers, with no objecting callback
    and no OnBeforeUpgrade, the request-line decision, the fold over the lines and the final decision
    (`upFinish`) all end without error. -/
theorem decision_complete (cfg : UpCfg) (m : Bytes) (ma mi : Nat) (hist : List (Bytes × Bytes))
    (hc : Compliant cfg m ma mi hist) (hl : ∀ kv ∈ hist, lineOk cfg kv.1 kv.2)
    (hb : cfg.onBeforeUpgrade = none) :
    upRequestLine cfg m ma mi = none ∧
      ∃ st, runHeaders cfg hist {} = (st, none) ∧ upFinish cfg st none = (none, []) := by
  refine ⟨?_, ?_⟩
  · exact (upRequestLine_eq_none_iff ..).mpr ⟨hc.get, hc.version, hc.onRequest⟩
  · obtain ⟨st, hs⟩ := runHeaders_complete cfg hist {} hl
    refine ⟨st, hs, ?_⟩
    have hseen := (runHeaders_sound cfg hist {} st hs).2.1
    have : st.seen = seenAll := by
      rw [hseen]; exact (seenAll_iff hist).mpr ⟨hc.host, hc.upgrade, hc.connection, hc.secVersion, hc.key⟩
    exact (upFinish_eq_none_iff ..).mpr ⟨rfl, this, .inl ⟨hb, rfl⟩⟩

/-- On success there are a request line and a list of header lines such that: both are
    acceptable, all five mandatory headers occur in the list, no callback objected, the fold over the list
    ends in the handshake returned, and what was written is exactly the 101 response for the last key in
    the list. (The conclusion does not tie the line and the list to `src`.) -/
theorem upgrade_success_sound (cfg : UpCfg) (src : Src) (hs : Handshake) (w : Bytes) (b : Bufio)
    (h : upgrade cfg src = (hs, none, w, b)) :
    ∃ rl major minor hist st extra,
      httpParseVersion (bsplit3 rl 32).2.2 = some (major, minor)
      ∧ Compliant cfg (bsplit3 rl 32).1 major minor hist
      ∧ runHeaders cfg hist {} = (st, none)
      ∧ hs = st.hs
      ∧ st.nonce = lastKey hist (List.replicate 24 0)
      ∧ w = writeResponseUpgrade st.nonce hs.protocol hs.extensions cfg.header extra
      ∧ (extra = [] ∨ cfg.onBeforeUpgrade = some (.inl extra)) := by
  revert h
  -- the five ways out of `upgrade`: transport error on the request line, unparsable request line,
  -- transport error in the head, an error response, the 101
  fun_cases upgrade cfg src
  case case5 rl b1 _ major minor hv st err b' hl extra hf =>
    intro h
    injection h with h1 h; injection h with _ h; injection h with h3 _
    obtain ⟨rfl, hseen, hb⟩ := (upFinish_eq_none_iff ..).mp hf
    obtain ⟨hreq, hist, hh⟩ := hdrLoop_history hl
    obtain ⟨g, s, n, ho⟩ := runHeaders_sound cfg hist {} st hh
    obtain ⟨r1, r2, r3⟩ := (upRequestLine_eq_none_iff ..).mp hreq
    have hpres := (seenAll_iff hist).mp (by rw [← hseen, s])
    refine ⟨rl, major, minor, hist, st, extra, hv, ?_, hh, h1.symm, n, ?_, ?_⟩
    · exact { get := r1, version := r2, onRequest := r3, onHost := ho hpres.1, host := hpres.1,
              upgrade := hpres.2.1, connection := hpres.2.2.1, secVersion := hpres.2.2.2.1,
              key := hpres.2.2.2.2, values := g,
              before := by
                intro e he; rw [he] at hb; simp at hb }
    · rw [← h3, ← h1]
    · exact hb.imp_left And.right
  all_goals intro h; cases h

/-- A Sec-WebSocket-Key that is not 24 bytes long is always refused. -/
theorem key_not_24_refused (cfg : UpCfg) (hist : List (Bytes × Bytes)) (st st' : UpState) (v : Bytes)
    (hin : (kKey, v) ∈ hist) (hlen : v.length ≠ 24) : runHeaders cfg hist st ≠ (st', none) := by
  intro h
  exact hlen (((runHeaders_sound cfg hist st st' h).1 _ hin).2.2.2 rfl)

/-- On a handshake error the bytes written are nothing (no request line could be parsed)
    or exactly the error response for that error with the caller's headers; on a transport error
    nothing is written. The 101 writer is never involved. -/
theorem upgrade_failure_writes (cfg : UpCfg) (src : Src) (hs : Handshake) (e : UpErr) (w : Bytes) (b : Bufio)
    (h : upgrade cfg src = (hs, some e, w, b)) :
    (∃ f, e = .io f ∧ w = []) ∨ (e = .hs errMalformedRequest ∧ w = [])
      ∨ (∃ he, e = .hs he ∧ w = writeResponseError he cfg.header) := by
  have he : (upgrade cfg src).2.1 = some e := by rw [h]
  have hw : w = (upgrade cfg src).2.2.1 := by rw [h]
  subst hw; clear h; revert he
  -- one goal for each way out of `upgrade` but the 101
  fun_cases upgrade cfg src <;> rintro ⟨⟩
  · exact .inl ⟨_, rfl, rfl⟩
  · exact .inr (.inl ⟨rfl, rfl⟩)
  · exact .inl ⟨_, rfl, rfl⟩
  · exact .inr (.inr ⟨_, rfl, rfl⟩)

def builtinErrors : List HsErr :=
  [errBadProtocol, errBadMethod, errBadHost, errBadUpgrade, errBadConnection, errBadSecKey,
   errBadSecVersion, errUpgradeRequired, errMalformedRequest]

/-- Built-in checks answer 400, 405, 505 or 426, and 426 carries Sec-WebSocket-Version: 13. -/
theorem builtin_codes : builtinErrors.all (fun e =>
    (e.code == 400 || e.code == 405 || e.code == 505 || e.code == 426)
      && (e.code != 426 || e.header == strBytes "Sec-WebSocket-Version: 13\r\n")) = true := by
  decide +kernel

/-- The status line of an error response carries the error's code (500 for a plain error), and
    the body is the error text announced with its exact length. -/
theorem error_response_shape (e : HsErr) (uh : Bytes) :
    ∃ mid, writeResponseError e uh =
      strBytes "HTTP/1.1 " ++ natBytes (if e.code = 0 then 500 else e.code) ++ [32] ++ mid
        ++ uh ++ e.header ++ strBytes "Content-Length: " ++ natBytes e.reason.length ++ crlf ++ crlf ++ e.reason :=
  ⟨statusText (if e.code = 0 then 500 else e.code) ++ crlf ++ strBytes "Content-Type: text/plain; charset=utf-8" ++ crlf,
    by simp [writeResponseError, List.append_assoc]⟩

/-- The error responses for the built-in errors never start like a 101. -/
theorem builtin_never_101 : builtinErrors.all (fun e =>
    (writeResponseError e []).take 12 != strBytes "HTTP/1.1 101") = true := by decide +kernel

/-- The success response: status 101, the fixed upgrade headers and the accept value derived from
    the key by SHA-1 and base64 as RFC 6455 §4.2.2 prescribes. -/
theorem upgrade_response_shape (nonce proto : Bytes) (exts : List Opt) (uh extra : Bytes) :
    ∃ tail, writeResponseUpgrade nonce proto exts uh extra =
      strBytes "HTTP/1.1 101 Switching Protocols\r\nUpgrade: websocket\r\nConnection: Upgrade\r\n"
        ++ strBytes "Sec-WebSocket-Accept: "
        ++ Spec.base64 (Spec.sha1 (nonce ++ strBytes "258EAFA5-E914-47DA-95CA-C5AB0DC85B11")) ++ crlf ++ tail :=
  ⟨(if proto.isEmpty then [] else strBytes "Sec-WebSocket-Protocol: " ++ proto ++ crlf)
    ++ (if exts.isEmpty then [] else strBytes "Sec-WebSocket-Extensions: " ++ Lex.writeOptions exts ++ crlf)
    ++ uh ++ extra ++ crlf,
   by simp only [writeResponseUpgrade, Spec.acceptOf, Spec.wsGUID, List.append_assoc]⟩

theorem scanTokens_go_prefix (cont : Bytes → Bool) (fuel : Nat) (l : Scanner) (ok : Bool) (acc : List Bytes)
    (hacc : ∀ t ∈ acc, cont t = true) :
    ∀ t ∈ (scanTokens.go cont fuel l ok acc).1.dropLast, cont t = true := by
  -- a token the callback continues on (3) or stops at (4), a comma (5); every other way out returns what was collected
  fun_induction scanTokens.go cont fuel l ok acc
  case case3 hc ih => exact ih (List.forall_mem_cons.mpr ⟨hc, hacc⟩)
  case case4 => simpa using hacc
  case case5 ih => exact ih hacc
  all_goals exact fun t ht => hacc t (by simpa using List.dropLast_subset _ ht)

/-- The subprotocol selected is accepted by the selector and every token the client listed
    before it was not. -/
theorem selectProtocol_first (v : Bytes) (accept : List Bytes) (p : Bytes) (ok : Bool)
    (h : selectProtocol v accept = (p, ok)) (hp : p ≠ []) :
    accept.contains p = true ∧
      ∃ before, (scanTokens v (fun t => !accept.contains t)).1 = before ++ [p]
        ∧ ∀ t ∈ before, accept.contains t = false := by
  have hpre : ∀ t ∈ (scanTokens v (fun t => !accept.contains t)).1.dropLast, _ :=
    scanTokens_go_prefix (fun t => !accept.contains t) (v.length + 2) { rest := v } false [] nofun
  revert h
  -- only when the last token scanned is acceptable is anything selected
  fun_cases selectProtocol v accept
  case case1 toks _ hs t hl hc =>
    rintro ⟨⟩
    obtain ⟨before, rfl⟩ := List.getLast?_eq_some_iff.mp hl
    rw [hs, List.dropLast_concat] at hpre
    exact ⟨hc, before, by rw [hs], fun x hx => by simpa using hpre x hx⟩
  all_goals rintro ⟨⟩; exact absurd rfl hp

/-- Extensions selected by the deprecated Extension callback come from the client's parsed offer
    (or were already selected from an earlier header line). -/
theorem selectExtensions_from_offer (v : Bytes) (dest : List Opt) (accept : List Bytes) (o : Opt)
    (h : o ∈ (selectExtensions v dest accept).1) :
    o ∈ dest ∨ (o ∈ (parseOptions v).1 ∧ accept.contains o.name = true) := by
  unfold selectExtensions at h
  simp only [List.mem_append, List.mem_filter] at h
  exact h

theorem negotiate_go_from_offer {cfg : Params} {os dest : List Opt} {st : NegSt} {xs : List Opt} {st' : NegSt}
    (h : negotiateExtensions.go cfg os dest st = (.ok xs, st')) (a : Opt) (ha : a ∈ xs) :
    a ∈ dest ∨ ∃ o ∈ os, ∃ s s', negotiate cfg s o = (.accept a, s') := by
  -- no offer left; then by the negotiator's answer to the first: an error, an acceptance, nothing, a panic
  fun_induction negotiateExtensions.go cfg os dest st
  case case1 => cases h; exact .inl ha
  case case3 st o _ a' st1 hn ih =>
    rcases ih h with h1 | ⟨o', ho', hs⟩
    · rcases List.mem_append.mp h1 with h1 | h1
      · exact .inl h1
      · obtain rfl := List.mem_singleton.mp h1
        exact .inr ⟨o, List.mem_cons_self, st, st1, hn⟩
    · exact .inr ⟨o', List.mem_cons_of_mem _ ho', hs⟩
  case case4 ih => exact (ih h).imp_right fun ⟨o', ho', hs⟩ => ⟨o', List.mem_cons_of_mem _ ho', hs⟩
  all_goals cases h

/-- Every extension the Negotiate path returns is the negotiator's answer to an option the client
    offered (C14's `accept_is_legal` says what such an answer may contain). -/
theorem negotiated_from_offer (v : Bytes) (dest : List Opt) (cfg : Params) (st : NegSt) (xs : List Opt)
    (st' : NegSt) (h : negotiateExtensions v dest cfg st = (.ok xs, st')) (a : Opt) (ha : a ∈ xs) :
    a ∈ dest ∨ ∃ o ∈ (parseOptions v).1, ∃ s s', negotiate cfg s o = (.accept a, s') := by
  revert h
  -- the negotiator refused an option; every option answered, and the header well formed (2) or not
  fun_cases negotiateExtensions v dest cfg st
  case case2 calls opts d st1 hg hc =>
    rintro ⟨⟩
    rw [show (parseOptions v).1 = opts by rw [parseOptions, hc]]
    exact negotiate_go_from_offer hg a ha
  all_goals rintro ⟨⟩

theorem httpErr0_eq_none_iff (r : AReq) : httpErr0 r = none ↔
    r.method = strBytes "GET" ∧ r.major = 1 ∧ 1 ≤ r.minor ∧ r.host ≠ []
      ∧ equalFold (r.first "Upgrade") (strBytes "websocket") = true
      ∧ (r.first "Connection" = strBytes "Upgrade" ∨ btsHasToken (r.first "Connection") (strBytes "upgrade") = true)
      ∧ (r.first "Sec-Websocket-Key").length = 24
      ∧ r.first "Sec-Websocket-Version" = strBytes "13" := by
  simp only [httpErr0, ite_some_eq_none, ne_eq, Decidable.not_not, not_or, Nat.not_lt, List.isEmpty_iff,
    Bool.not_eq_true', Bool.not_eq_false, Bool.or_eq_true, decide_eq_true_eq, and_true, and_assoc]

/-- HTTPUpgrader.Upgrade (the net/http variant): on success the request met every built-in requirement,
    and what was written is the 101 response for its key. -/
theorem httpUpgrade_success_sound (cfg : UpCfg) (r : AReq) (hs : Handshake) (w : Bytes)
    (h : httpUpgrade cfg r = (hs, none, w)) :
    r.method = strBytes "GET" ∧ r.major = 1 ∧ 1 ≤ r.minor ∧ r.host ≠ []
      ∧ equalFold (r.first "Upgrade") (strBytes "websocket") = true
      ∧ (r.first "Connection" = strBytes "Upgrade" ∨ btsHasToken (r.first "Connection") (strBytes "upgrade") = true)
      ∧ (r.first "Sec-Websocket-Key").length = 24
      ∧ r.first "Sec-Websocket-Version" = strBytes "13"
      ∧ w = writeResponseUpgrade (r.first "Sec-Websocket-Key") hs.protocol hs.extensions [] [] := by
  revert h
  -- the ways out of `httpUpgrade`: a built-in check, the subprotocol, the extensions, the 101
  fun_cases httpUpgrade cfg r
  case case4 h0 _ _ _ =>
    rintro ⟨⟩
    obtain ⟨g1, g2, g3, g4, g5, g6, g7, g8⟩ := (httpErr0_eq_none_iff r).mp h0
    exact ⟨g1, g2, g3, g4, g5, g6, g7, g8, rfl⟩
  all_goals rintro ⟨⟩

/-- HTTPUpgrader.Upgrade with no selectors configured: a request meeting the requirements is upgraded. -/
theorem httpUpgrade_complete (cfg : UpCfg) (r : AReq)
    (hp : cfg.protocols = none) (hn : cfg.negotiate = none) (hx : cfg.extension = none)
    (h1 : r.method = strBytes "GET") (h2 : r.major = 1) (h3 : 1 ≤ r.minor) (h4 : r.host ≠ [])
    (h5 : equalFold (r.first "Upgrade") (strBytes "websocket") = true)
    (h6 : r.first "Connection" = strBytes "Upgrade" ∨ btsHasToken (r.first "Connection") (strBytes "upgrade") = true)
    (h7 : (r.first "Sec-Websocket-Key").length = 24)
    (h8 : r.first "Sec-Websocket-Version" = strBytes "13") :
    httpUpgrade cfg r = ({}, none, writeResponseUpgrade (r.first "Sec-Websocket-Key") [] [] [] []) := by
  unfold httpUpgrade
  rw [(httpErr0_eq_none_iff r).mpr ⟨h1, h2, h3, h4, h5, h6, h7, h8⟩]
  simp [hp, httpExts, hn, hx]

end Ws.C09
