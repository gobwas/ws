/-
  C20 — Dial honours cancellation at any moment without poisoning or leaking the conn.

  Stated on the model of Dialer.Dial's control flow (Model/Dial.lean), for every combination of
  background / non-background context, Timeout, cancellation or deadline instant, NetDial and
  handshake durations (incl. a silent peer), handshake failure and the watcher's scheduling choice.
-/
import WsVerif.Model.Dial
namespace Ws.C20
open Ws.Dial

theorem limitErr_is_ctx (i : In) : limitErr i = .canceled ∨ limitErr i = .deadlineExceeded := by
  fun_cases limitErr i <;> simp

theorem limitErr_ne_nil (i : In) : limitErr i ≠ .nil := by
  rcases limitErr_is_ctx i with h | h <;> rw [h] <;> simp

/-- The limit strikes during the handshake: on the background path the conn's own deadline
    fires, otherwise the watcher poisons it; either way Dial closes the conn and returns at once.
    (`hbg`, here and below: context.Background() never ends.) -/
theorem dial_cut (i : In) (l t0 : Nat) (hl : minO i.ctxEnd i.timeout = some l) (hbg : i.bg = true → i.ctxEnd = none)
    (hd : i.dialDur = some t0) (hc : t0 < l ∨ i.dialIgnores = true)
    (hlate : ∀ hs, i.hsDur = some hs → l < t0 + hs) :
    dial i = { connected := true, err := if i.bg then .netTimeout else limitErr i, closed := true,
               dl := if i.bg then .cleared else .poisoned, ret := some (max l t0) } := by
  have hc' : (decide (t0 < l) || i.dialIgnores) = true := by cases hc <;> simp [*]
  unfold dial
  simp only [hl, hd, hc', if_true]
  cases hb : i.bg
  · cases hh : i.hsDur with
    | none => simp
    | some hs =>
      have := hlate hs hh
      have : ¬ t0 + hs < l := by omega
      simp [*]
  · have ht : i.timeout = some l := by simpa [hbg hb, minO] using hl
    cases hh : i.hsDur with
    | none => simp [ht]
    | some hs =>
      have := hlate hs hh
      have : ¬ t0 + hs ≤ l := by omega
      simp [*]

/-- How Dial ends: without a connection; with the handshake run to its own end (the conn closed iff it
    failed, its deadline cleared or never set); or cut short, with an error and the conn closed. -/
inductive Ending (i : In) : Out → Prop
  | refused (ret) : Ending i { connected := false, err := limitErr i, closed := false, dl := .untouched, ret }
  | ran (fail : Bool) (dl ret) (h : dl = .cleared ∨ dl = .untouched) :
      Ending i { connected := true, err := if fail then .io else .nil, closed := fail, dl, ret }
  | aborted (err dl ret) (h : err ≠ .nil) : Ending i { connected := true, err, closed := true, dl, ret }

theorem dial_ending (i : In) : Ending i (dial i) := by
  have hne := limitErr_ne_nil i
  -- the thirteen results `dial` can build, in the order it lists them
  fun_cases dial i
  · exact .refused _
  -- background context: the conn's own deadline, cleared on return
  · exact .ran false _ _ (.inl rfl)
  · exact .ran _ _ _ (.inl rfl)
  · exact .ran _ _ _ (.inl rfl)
  · exact .aborted _ _ _ nofun
  · exact .aborted _ _ _ nofun
  -- any other context: the watcher poisons the conn when the limit strikes
  · exact .ran false _ _ (.inr rfl)
  · exact .ran _ _ _ (.inr rfl)
  · exact .aborted _ _ _ hne
  · exact .ran _ _ _ (.inr rfl)
  · exact .aborted _ _ _ hne
  · exact .aborted _ _ _ (by split <;> simp [hne])
  · exact .ran _ _ _ (.inr rfl)

/-- A nil error comes with a connection that was not closed and whose deadlines are left
    cleared (never set, or reset to the zero time) — never poisoned. -/
theorem success_clean (i : In) (h : (dial i).err = .nil) :
    (dial i).closed = false ∧ ((dial i).dl = .cleared ∨ (dial i).dl = .untouched) := by
  have e := dial_ending i
  generalize dial i = o at h e ⊢
  cases e with
  | refused => exact absurd h (limitErr_ne_nil i)
  | ran fail _ _ hdl => cases fail <;> first | exact ⟨rfl, hdl⟩ | cases h
  | aborted _ _ _ hne => exact absurd h hne

/-- A non-nil error after NetDial succeeded comes with the connection closed. -/
theorem failure_closed (i : In) (hc : (dial i).connected = true) (h : (dial i).err ≠ .nil) :
    (dial i).closed = true := by
  have e := dial_ending i
  generalize dial i = o at hc h e ⊢
  cases e with
  | refused => cases hc
  | ran fail => cases fail <;> first | rfl | exact absurd rfl h
  | aborted => rfl

/-- Dial returns by the earlier of the context's end and the dial timeout, whenever there is one
    — also when the peer never answers. (A NetDial supplied by the user that ignores its context is
    the one thing Dial cannot cut short: see `returns_after_late_dial`.) -/
theorem returns_by_limit (i : In) (l : Nat) (hl : minO i.ctxEnd i.timeout = some l) (hbg : i.bg = true → i.ctxEnd = none)
    (hig : i.dialIgnores = false) :
    ∃ r, (dial i).ret = some r ∧ r ≤ l := by
  by_cases hd : ∃ d, i.dialDur = some d ∧ d < l
  · obtain ⟨d, hd, hdl⟩ := hd
    by_cases hin : ∃ hs, i.hsDur = some hs ∧ d + hs ≤ l
    · obtain ⟨hs, hh, hin⟩ := hin
      refine ⟨d + hs, ?_, hin⟩
      unfold dial
      simp only [hl, hd, hdl, decide_true, Bool.true_or, if_true, hh, Option.map]
      cases hb : i.bg
      · by_cases h1 : d + hs < l
        · simp [h1]
        · have : ¬ l < d + hs := by omega
          cases i.pickCtx <;> simp [*]
      · have ht : i.timeout = some l := by simpa [hbg hb, minO] using hl
        simp [ht, hin]
    · refine ⟨l, ?_, Nat.le_refl l⟩
      rw [dial_cut i l d hl hbg hd (.inl hdl) fun hs hh => Nat.lt_of_not_le fun hle => hin ⟨hs, hh, hle⟩,
        Nat.max_eq_left (Nat.le_of_lt hdl)]
  · refine ⟨l, ?_, Nat.le_refl l⟩
    unfold dial
    cases hd' : i.dialDur with
    | none => simp [hl]
    | some d =>
      have : ¬ d < l := fun hdl => hd ⟨d, hd', hdl⟩
      simp [hl, hig, this]

/-- With a non-background context: if it (or the dial timeout) ends strictly before the handshake I/O
    would have finished, the error is that context's error, the connection is closed, and Dial returns at
    that instant. -/
theorem ended_before_finish (i : In) (hb : i.bg = false) (l d : Nat) (hl : minO i.ctxEnd i.timeout = some l)
    (hd : i.dialDur = some d) (hdl : d < l) (hlate : ∀ hs, i.hsDur = some hs → l < d + hs) :
    (dial i).err = limitErr i ∧ (dial i).closed = true ∧ (dial i).ret = some l := by
  rw [dial_cut i l d hl (by simp [hb]) hd (.inl hdl) hlate, Nat.max_eq_left (Nat.le_of_lt hdl)]
  simp [hb]

/-- A NetDial that ignores its context and hands over a connection only after the limit has passed:
    Dial still fails (`dial_cut`: with the context's error, or the timeout error on the background fast path),
    closes that connection, and returns as soon as NetDial did — whatever the peer does next (unless it answers
    in no time at all at that very instant). -/
theorem returns_after_late_dial (i : In) (l d : Nat) (hl : minO i.ctxEnd i.timeout = some l)
    (hbg : i.bg = true → i.ctxEnd = none) (hig : i.dialIgnores = true) (hd : i.dialDur = some d) (hdl : l ≤ d)
    (hhs : ∀ hs, i.hsDur = some hs → l < d + hs) :
    (dial i).connected = true ∧ (dial i).err ≠ .nil ∧ (dial i).closed = true ∧ (dial i).ret = some d := by
  rw [dial_cut i l d hl hbg hd (.inr hig) hhs, Nat.max_eq_right hdl]
  have := limitErr_ne_nil i
  cases i.bg <;> simp [*]

/-- The watcher goroutine has always replied by the time Dial returns: done() blocks on its reply
    (structural: the model has no state in which Dial returns without that receive). -/
theorem watcher_done (i : In) : (dial i).watcherDone = true := by
  have e := dial_ending i
  generalize dial i = o at e ⊢
  cases e <;> rfl

example : dial { bg := false, timeout := some 100, ctxEnd := none, dialDur := some 10, hsDur := none }
    = { connected := true, err := .deadlineExceeded, closed := true, dl := .poisoned, ret := some 100 } := by decide
example : dial { bg := false, timeout := none, ctxEnd := some 50, dialDur := some 10, hsDur := some 20 }
    = { connected := true, err := .nil, closed := false, dl := .untouched, ret := some 30 } := by decide
example : dial { bg := true, timeout := some 100, ctxEnd := none, dialDur := some 10, hsDur := some 20 }
    = { connected := true, err := .nil, closed := false, dl := .cleared, ret := some 30 } := by decide

end Ws.C20
