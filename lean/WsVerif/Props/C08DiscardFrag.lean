/-
  C08 / C04 — Discard with `wsutil.ControlFrameHandler` installed as OnIntermediate over the rest of a fragmented
  message: every interleaved ping is answered (one pong each, identical payload, in order), pongs are consumed, the
  transport ends up right behind the message and the reader is reset. This is `RdProof.discard_closed`
  (Proofs/Reader) at that handler: stated for a reader with CheckUTF8 off in `discard_tail_h`, and used directly — it
  asks `Cfg`, which does not mention CheckUTF8 — for the round of the `wsutil.ReadData` loop, whose reader has
  CheckUTF8 on, that skips an unwanted fragmented message, text or not (`loop_skip_frag`). That Discard never feeds
  the validator is also said as such: `discard_strip_g`, `discard_checking`.
-/
import WsVerif.Props.C08Intermediate
import WsVerif.Props.C04Idle
import WsVerif.Proofs.ReaderSim
namespace Ws.C08
open Ws Ws.Spec Ws.RdProof Ws.RdCb Ws.RdText Ws.RdBin Ws.RdPong Ws.C06 Ws.C04

theorem discard_tail_h (client : Bool) (errText : ProtoErr → Bytes) (skip : Bool) (st maxF : Nat) (rest : Bytes) (fs : List WFrame)
    (ht : Tail false skip st maxF fs) (hg : ∀ f ∈ fs, opIsControl f.h.op = true → GoodCtl f) :
    ∀ (r : Rd) (s : Src) (wire : Bytes) (fuel : Nat) (cx : Ctx),
      Common skip st maxF r s → r.state = st → r.rawN = wire.length → s.bytes = wire ++ (encodeFs fs ++ rest) →
      fs.length < fuel → EnvOk cx.env →
      ∃ r' s' cx', r.discard s cx (some (pongH client errText)) fuel = (none, r', s', cx') ∧ s'.bytes = rest ∧ Src.Tame s'
        ∧ Handled client fs cx cx' ∧ EnvOk cx'.env
        ∧ r'.state = stClear st stFragmented ∧ r'.maxFrame = maxF ∧ r'.skipCheck = skip ∧ r'.ext = false := by
  intro r s wire fuel cx hc hst hn hb hfuel henv
  obtain ⟨r', s', cx', hd, hb', ht', hrun, hi', q1, q2, q3, q4, _⟩ := discard_closed (handles_pong client errText) skip st maxF rest fs ht hg
    r s wire fuel cx hc.cfg hst hn hb hfuel henv
  exact ⟨r', s', cx', hd, hb', ht', run_pong.mp hrun, hi', q1, q2, q3, q4⟩

/-- Discard does not look at the UTF-8 fields, whatever handler of the `CbOk` kind is installed. -/
theorem discard_strip_g (cb : Callback) (hcb : CbOk cb) (n : Nat) (r : Rd) (s : Src) (cx : Ctx) :
    (strip r).discard s cx (some cb) n =
      ((r.discard s cx (some cb) n).1, strip (r.discard s cx (some cb) n).2.1, (r.discard s cx (some cb) n).2.2.1,
       (r.discard s cx (some cb) n).2.2.2) :=
  discard_strip_o (ok_some hcb) n r s cx

/-- a Discard that succeeds leaves the checking switch as it was and a fresh validator -/
theorem discard_checking (cb : Callback) (hcb : CbOk cb) (n : Nat) : ∀ (r : Rd) (s : Src) (cx : Ctx),
    (r.discard s cx (some cb) n).1 = none →
      (r.discard s cx (some cb) n).2.1.checkUTF8 = r.checkUTF8 ∧ (r.discard s cx (some cb) n).2.1.utf8 = {} := by
  induction n with
  | zero => intro r s cx h; simp [Rd.discard] at h
  | succ n ih =>
    intro r s cx h
    have hraw := drainRaw_only_rawN r s s.fuel
    unfold Rd.discard at h ⊢
    rcases hd : r.drainRaw s s.fuel with ⟨e, r1, s1⟩
    rw [hd] at h hraw
    simp only at h hraw ⊢
    have hck : r1.checkUTF8 = r.checkUTF8 := by rw [hraw]
    cases e with
    | some e => simp at h
    | none =>
      simp only at h ⊢
      by_cases hf : r1.fragmented = true
      · simp only [hf, Bool.not_true, Bool.false_eq_true, if_false] at h ⊢
        obtain ⟨_, _, f3, _, _⟩ := nextFrame_fields_o (ok_some hcb) r1 s1 cx
        rcases hx : r1.nextFrame s1 cx (some cb) with ⟨hh, e2, r2, s2, cx2⟩
        rw [hx] at h f3
        simp only at h f3 ⊢
        cases e2 with
        | some e => simp at h
        | none =>
          simp only at h ⊢
          obtain ⟨g1, g2⟩ := ih r2 s2 cx2 h
          exact ⟨by rw [g1, f3, hck], g2⟩
      · have hf' : r1.fragmented = false := by simpa using hf
        simp only [hf', Bool.not_false, if_true]
        exact ⟨by simp [Rd.reset, hck], by simp [Rd.reset]⟩

/-- the ReadData loop on a fragmented message of a type the caller did not ask for (text or not), with pings and pongs
    between its fragments: skipped whole within one round, the pings answered, the reader idle again -/
theorem loop_skip_frag (state want : Nat) (errText : ProtoErr → Bytes)
    (r0 : Rd) (s : Src) (cx : Ctx) (fuel : Nat) (f0 : WFrame) (fs : List WFrame) (rest : Bytes)
    (hi : Idle state r0) (henv : EnvOk cx.env) (hst : state < 256) (hnf : stIs state stFragmented = false)
    (hm : Message ({ state } : Rd) f0 fs) (hfin : f0.h.fin = false)
    (hunw : (f0.h.op &&& want == 0) = true)
    (hg : ∀ f ∈ fs, opIsControl f.h.op = true → GoodCtl f)
    (hb : s.bytes = encodeFs (f0 :: fs) ++ rest) (hwf : Bytes.WF s.bytes) (htame : Src.Tame s) :
    ∃ r2 s2 cx2 ws, readData.loop want errText (stIs state stClient) (pongH (stIs state stClient) errText) (fuel + 1) r0 s cx
        = readData.loop want errText (stIs state stClient) (pongH (stIs state stClient) errText) fuel r2 s2 cx2
      ∧ Idle state r2 ∧ s2.bytes = rest ∧ Src.Tame s2 ∧ EnvOk cx2.env
      ∧ cx2.env.dst.writes = cx.env.dst.writes ++ ws ∧ Pongs (stIs state stClient) ws (pingsIn fs) ∧ cx2.msgs = cx.msgs := by
  obtain ⟨b1, b2, b3, b4⟩ := stbits state hst
  obtain ⟨s1, hnext, hin, _⟩ := hi.nextFrame hnf hm.ok0 hm.acc0.1 (rest := encodeFs fs ++ rest) (by rw [hb]; simp [encodeFs]) hwf htame cx
    (some (pongH (stIs state stClient) errText))
  have htail : Tail false false (stSet state stFragmented) 0 fs := by
    have := hm.rest; simp only [hfin, Bool.false_eq_true, if_false] at this; exact this
  have hfuel : fs.length < pullFuel s1 := by
    have h1 := encodeFs_len_ge fs
    have h2 : (encodeFs fs).length ≤ s1.bytes.length := by rw [hin.bytes]; simp; omega
    unfold pullFuel Src.fuel; omega
  -- Discard never feeds the validator: the checking reader goes through it as it stands
  obtain ⟨r2, s', cx', hD, hb', ht', hrun, he', q1, q2, q3, q4, q5, q6⟩ := discard_closed (handles_pong (stIs state stClient) errText)
    false (stSet state stFragmented) 0 rest fs htail hg (enter r0 f0.h) s1 f0.wire (pullFuel s1) cx
    ⟨hi.ext, hi.skip, hi.maxF, hin.tame, hin.wf, b1, b2, b3⟩ (by simp [enter, hfin, hi.st]) hm.ok0.len.symm hin.bytes hfuel henv
  obtain ⟨ws, hw1, hw2, hw3⟩ := handled_writes (stIs state stClient) fs cx cx' (run_pong.mp hrun)
  refine ⟨r2, s', cx', ws, ?_, ⟨by rw [q1]; exact (b4 hnf).1, by rw [q5]; exact hi.chk, q4, q3, q2, q6⟩, hb', ht', he', hw1, hw2, hw3⟩
  rw [readData.loop]
  simp only [hnext, hm.data0, Bool.false_eq_true, if_false, hunw, if_true, hD]

end Ws.C08
