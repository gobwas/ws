/-
  C07, stream level — a text message is accepted iff its whole payload is valid UTF-8 (`text_message`). A frame
  boundary or a ping in the middle of a multi-byte character changes nothing: validity is a property of the
  concatenation. The checking reader is simulated by the non-checking one (Proofs/ReaderText, Proofs/ReaderSim:
  `enter_text`, `reads_sim`), for which the stream theorems are C04.message_delivered and C05.reject_at_first_bad.
  Scope as there: no receive extension, OnIntermediate unset.
-/
import WsVerif.Props.C04
import WsVerif.Props.C05
import WsVerif.Proofs.ReaderSim
namespace Ws.C07
open Ws Ws.Spec Ws.RdProof Ws.RdText Ws.RdBin

/-- C07, message level. A reader with CheckUTF8 on, standing between messages, receives a text message — any
    fragmentation, control frames between the fragments, any chunking by the transport, any sequence of caller buffer
    sizes. If the concatenated payload is well-formed UTF-8 (Table 3-7), what `C04.message_delivered` says holds: the
    Reads hand out the payload bytes in order, the message ends with io.EOF after at most (bytes + chunks of the
    transport + 1) Reads, and the reader is back between messages. If it is not, no sequence of Reads ends the message
    with io.EOF: the Reads hand out a prefix of the payload and then ErrInvalidUTF8, again after at most that many
    Reads. -/
theorem text_message (r0 : Rd) (s : Src) (cx : Ctx) (f0 : WFrame) (fs : List WFrame) (rest : Bytes)
    (ks : List Nat) (hpos : ∀ k ∈ ks, 0 < k)
    (hidle : r0.hasFrame = false) (hnf : r0.fragmented = false) (hst : r0.state < 256)
    (hext : r0.ext = false) (hu8 : r0.checkUTF8 = true) (hfresh : r0.utf8.state = utf8Accept)
    (htext : f0.h.op = opText)
    (hm : C04.Message r0 f0 fs)
    (hb : s.bytes = encodeFs (f0 :: fs) ++ rest) (hwf : Bytes.WF s.bytes) (htame : Src.Tame s) :
    ∃ r1 s1 out e r' s' cx',
      r0.nextFrame s cx none = (some f0.h, none, r1, s1, cx)
      ∧ reads r1 s1 cx ks = some (out, e, r', s', cx')
      ∧ (∃ more, dataPlain (f0 :: fs) = out ++ more)
      ∧ (wfUtf8 (dataPlain (f0 :: fs)) = true →
          (e = none ∨ e = some .eof)
          ∧ (e = some .eof → out = dataPlain (f0 :: fs) ∧ s'.bytes = rest ∧ r'.state = r0.state ∧ r'.hasFrame = false)
          ∧ (mu s < ks.length → e = some .eof))
      ∧ (wfUtf8 (dataPlain (f0 :: fs)) = false →
          (e = none ∨ e = some .utf8) ∧ (mu s < ks.length → e = some .utf8)) := by
  -- the same reader without the check
  have hm' : C04.Message (strip r0) f0 fs := ⟨hm.ok0, hm.data0, hm.acc0, hm.rest⟩
  obtain ⟨q1, s1, out, e, q', s', hnext, hq1, hrd, hpre, hee, heof, hlive⟩ :=
    C04.message_delivered (strip r0) s cx f0 fs rest ks hpos hidle hnf hst hext rfl hm' hb hwf htame
  obtain ⟨r1, hN, rfl, htm⟩ := enter_text ok_none r0 hnext hnf hu8 hfresh htext
  obtain ⟨more, hmore⟩ := hpre
  have hwfd : Bytes.WF (dataPlain (f0 :: fs)) := hm.dataPlain_wf
  have hwfo : Bytes.WF out := (Bytes.wf_append.mp (hmore ▸ hwfd)).1
  have hsim := reads_sim ks .acc r1 s1 cx htm out e q' s' cx hrd hwfo
  -- validity of the whole payload, seen from the delivered prefix
  have hrun : u8Run .acc (dataPlain (f0 :: fs)) = u8Run (u8Run .acc out) more := by rw [hmore, u8Run_append]
  rcases hsim with ⟨a1, a2, r', a3, a4, a5⟩ | ⟨a1, out', r', s'', cx'', a3, more', a4⟩
  · -- the checking reader went the same way
    refine ⟨r1, s1, out, e, r', s', cx, hN, a3, ⟨more, hmore⟩, ?_, ?_⟩
    · intro _
      refine ⟨hee, fun he => ?_, hlive⟩
      obtain ⟨h1, h2, h3, h4⟩ := heof he
      refine ⟨h1, h2, ?_, ?_⟩
      · have h5 : q'.state = r0.state := h4
        rw [← h5, ← a4]; rfl
      · have := h3.has; rw [← a4] at this; exact this
    · intro hbad
      -- not reaching io.EOF: at io.EOF the whole payload has been delivered and was found valid
      have hne : e ≠ some .eof := by
        intro he
        obtain ⟨h1, _⟩ := heof he
        have := a2 he
        rw [h1] at this
        simp [wfUtf8, this] at hbad
      rcases hee with h | h
      · refine ⟨Or.inl h, fun hl => absurd (hlive hl) hne⟩
      · exact absurd h hne
  · -- ErrInvalidUTF8
    refine ⟨r1, s1, out', some .utf8, r', s'', cx'', hN, a3, ⟨more' ++ more, by rw [hmore, a4, List.append_assoc]⟩, ?_, ?_⟩
    · intro hgood
      exfalso
      have hacc : u8Run .acc (dataPlain (f0 :: fs)) = .acc := by simpa [wfUtf8] using hgood
      rcases a1 with a1 | ⟨hne, a1⟩
      · rw [hrun, a1, u8Run_rej] at hacc; cases hacc
      · have he : e = some .eof := by
          rcases hee with h | h
          · exact absurd h hne
          · exact h
        obtain ⟨h1, _⟩ := heof he
        rw [h1] at a1; exact a1 hacc
    · intro _
      exact ⟨Or.inr rfl, fun _ => rfl⟩

/-- C05 for text messages (CheckUTF8 on): the valid frames `f0 :: fs` of a text message, then a frame the reader must
    refuse. Any sequence of Reads either stays inside the known frames — handing out a prefix of their text, ending
    (if at all) with io.EOF for a complete message or with ErrInvalidUTF8 — or delivers all of the text and returns
    the refusal `err` at the Read that reaches the offending header, with nothing behind that header read. -/
theorem reject_at_first_bad_text (r0 : Rd) (s : Src) (cx : Ctx) (f0 : WFrame) (fs : List WFrame) (hbad : Header)
    (junk : Bytes) (err : RErr) (ks : List Nat) (hpos : ∀ k ∈ ks, 0 < k)
    (hidle : r0.hasFrame = false) (hnf : r0.fragmented = false) (hst : r0.state < 256)
    (hext : r0.ext = false) (hu8 : r0.checkUTF8 = true) (hfresh : r0.utf8.state = utf8Accept)
    (htext : f0.h.op = opText)
    (hok0 : f0.OK) (hdata0 : opIsControl f0.h.op = false) (hfin0 : f0.h.fin = false)
    (hacc0 : AcceptsAt r0.skipCheck r0.state r0.maxFrame f0.h)
    (htail : Tail true r0.skipCheck (stSet r0.state stFragmented) r0.maxFrame fs)
    (hbw : hbad.WF) (hrej : C05.RefusedWith r0.skipCheck (stSet r0.state stFragmented) r0.maxFrame hbad err)
    (hb : s.bytes = encodeFs (f0 :: fs) ++ (rfcEncode hbad ++ junk)) (hwf : Bytes.WF s.bytes) (htame : Src.Tame s) :
    ∃ r1 s1, r0.nextFrame s cx none = (some f0.h, none, r1, s1, cx) ∧
      ((∃ out e r' s' cx', reads r1 s1 cx ks = some (out, e, r', s', cx')
          ∧ (∃ more, dataPlain (f0 :: fs) = out ++ more) ∧ (e = none ∨ e = some .eof ∨ e = some .utf8))
       ∨ (∃ r' s', reads r1 s1 cx ks = some (dataPlain (f0 :: fs), some err, r', s', cx) ∧ s'.bytes = junk)) := by
  obtain ⟨q1, s1, hnext, hq1, hcases⟩ :=
    C05.reject_at_first_bad (strip r0) s cx f0 fs hbad junk err ks hpos hidle hnf hst hext rfl hok0 hdata0 hfin0
      hacc0 htail hbw hrej hb hwf htame
  obtain ⟨r1, hN, rfl, htm⟩ := enter_text ok_none r0 hnext hnf hu8 hfresh htext
  have hwfd : Bytes.WF (dataPlain (f0 :: fs)) := dataPlain_wf _ (List.forall_mem_cons.mpr ⟨hok0, htail.allOK⟩)
  refine ⟨r1, s1, hN, ?_⟩
  rcases hcases with ⟨out, e, q', s', hrd, ⟨more, hmore⟩, hee⟩ | ⟨q', s', hrd, hjunk⟩
  · have hwfo : Bytes.WF out := (Bytes.wf_append.mp (hmore ▸ hwfd)).1
    left
    rcases reads_sim ks .acc r1 s1 cx htm out e q' s' cx hrd hwfo with
      ⟨_, _, r', a3, _, _⟩ | ⟨_, out', r', s'', cx'', a3, more', a4⟩
    · refine ⟨out, e, r', s', cx, a3, ⟨more, hmore⟩, ?_⟩
      rcases hee with he | he
      · exact Or.inl he
      · exact Or.inr (Or.inl he)
    · exact ⟨out', some .utf8, r', s'', cx'', a3, ⟨more' ++ more, by rw [hmore, a4, List.append_assoc]⟩, Or.inr (Or.inr rfl)⟩
  · rcases reads_sim ks .acc r1 s1 cx htm _ (some err) q' s' cx hrd hwfd with
      ⟨_, _, r', a3, _, _⟩ | ⟨_, out', r', s'', cx'', a3, more', a4⟩
    · right; exact ⟨r', s', a3, hjunk⟩
    · left; exact ⟨out', some .utf8, r', s'', cx'', a3, ⟨more', a4⟩, Or.inr (Or.inr rfl)⟩

/- The example stream of Props/C04 read with CheckUTF8 on; and a text with the euro sign E2 82 AC split after its first
   byte across two fragments, whole and with its last byte missing (a message that ends inside a character). -/
def exR0 : Rd := { state := 1, checkUTF8 := true }
def euF0 : WFrame := ⟨⟨false, 0, 1, false, Mask.zero, 2⟩, [0x61, 0xe2]⟩         -- "a" E2
def euF2 : WFrame := ⟨⟨true, 0, 0, false, Mask.zero, 2⟩, [0x82, 0xac]⟩
def euF2bad : WFrame := ⟨⟨true, 0, 0, false, Mask.zero, 1⟩, [0x82]⟩             -- 82, then the message ends
def euR0 : Rd := { state := 2, checkUTF8 := true }                               -- client side
def euSrc (last : WFrame) : Src :=
  { chunks := [(encodeFs [euF0, last]).take 3, (encodeFs [euF0, last]).drop 3], fin := .eof, dataWithFin := false }

example : C04.Message exR0 C04.exF0 [C04.exPing, C04.exF1, C04.exF2] ∧ exR0.utf8.state = utf8Accept
    ∧ C04.exF0.h.op = opText ∧ wfUtf8 (dataPlain [C04.exF0, C04.exPing, C04.exF1, C04.exF2]) = true := by
  refine ⟨⟨⟨by decide, by decide, by decide, by decide⟩, by decide, ⟨by decide, by decide⟩, ?_⟩, rfl, rfl, by decide⟩
  exact C04.exTail

example : wfUtf8 (dataPlain [euF0, euF2]) = true ∧ wfUtf8 (dataPlain [euF0, euF2bad]) = false := by decide

example :
    (match euR0.nextFrame (euSrc euF2) {} none with
     | (_, _, r1, s1, cx) => (reads r1 s1 cx [1, 1, 1, 1, 1, 1, 1, 1]).map fun x => (x.1, x.2.1))
      = some ([0x61, 0xe2, 0x82, 0xac], some .eof) := by decide

example :
    (match euR0.nextFrame (euSrc euF2bad) {} none with
     | (_, _, r1, s1, cx) => (reads r1 s1 cx [1, 1, 1, 1, 1, 1, 1, 1]).map fun x => (x.1, x.2.1))
      = some ([0x61, 0xe2], some .utf8) := by decide

end Ws.C07
