/-
  C06 — Fragmenting writer emits one well-formed message per flush and loses no byte.
  `Wr.stepA` is the writer seen at the level of frames: what each operation emits (as abstract
  frames `AF`: fin, opcode, RSV, plain payload) and how the state moves, with flushing enabled and a
  healthy destination; `history_ok` is the property there, for every operation sequence.
  `write_refines`, `stepC_refines` and `run_refines` tie the byte-level model (`Wr.write` etc. with
  the destination, the drawn masks and the header encoder) to it. SetExtensions / ResetOp / Grow /
  DisableFlush / ReadFrom inside a history are not among the operations `WOp` (per-operation
  theorems and the correspondence cover them).
-/
import WsVerif.Model.Writer
import WsVerif.Spec.Header
import WsVerif.Spec.Cipher
import WsVerif.Props.C01
import WsVerif.Props.C02
namespace Ws.C06
open Ws Ws.Spec

/-- Whatever fits the payload area of a buffer needs a header that fits the space `reserve` set
    aside for it — across the 125/126 and 65535/65536 thresholds, both sides. -/
theorem reserve_sufficient (client : Bool) (rawLen n : Nat)
    (h : n ≤ rawLen - reserve client rawLen) : wHeaderSize client n ≤ reserve client rawLen := by
  unfold wHeaderSize reserve at *
  -- the side adds the same 0 or 4 bytes to the header and to the reserve
  generalize (if client = true then 4 else 0) = mask at h ⊢
  simp only at h ⊢
  split at h <;> (try split at h) <;> split <;> (try split) <;> omega

/-- What `newWriterBuffer` establishes (`inv_new`) and every operation of `WOp` keeps (`stepA_inv`). -/
structure Inv (w : Wr) : Prop where
  off_eq : w.off = reserve w.client w.rawLen
  room : w.off < w.rawLen
  fits : w.buf.length ≤ w.size

theorem newWriterBuffer_eq_some {c : Bool} {op n : Nat} {w : Wr} :
    newWriterBuffer c op n = some w ↔
      reserve c n < n ∧ w = { client := c, op := op, rawLen := n, off := reserve c n } := by
  unfold newWriterBuffer
  by_cases h : n ≤ reserve c n
  · simp [h, Nat.not_lt.2 h]
  · simp [h, Nat.lt_of_not_le h, eq_comm]

theorem inv_new {client : Bool} {op rawLen : Nat} {w : Wr} (h : newWriterBuffer client op rawLen = some w) :
    Inv w := by
  obtain ⟨hlt, rfl⟩ := newWriterBuffer_eq_some.1 h
  exact ⟨rfl, hlt, by simp [Wr.size]⟩

theorem rfcSize_eq (h : Header) : rfcSize h = wHeaderSize h.masked h.len := by
  unfold rfcSize wHeaderSize
  simp only [Nat.lt_succ_iff]  -- the two differ in how the first threshold is written: `≤ 125`, `< 126`

/-- ws.WriteHeader emits as many bytes as wsutil's `headerSize` (writer.go) counts. -/
theorem writeHeader_len (h : Header) (hw : h.WF) :
    ∃ hb, writeHeader h = .ok hb ∧ hb.length = wHeaderSize h.masked h.len :=
  ⟨rfcEncode h, C01.write_eq_rfc h hw, by rw [C01.rfc_len, rfcSize_eq]⟩

/-- The drawn masks are bytes; no destination failure is scheduled. -/
structure EnvOk (e : Env) : Prop where
  masks_wf : ∀ m ∈ e.masks, m.WF
  no_fail : e.dst.failAt = none

theorem extRsv_lt (ext : Option Bool) (op : Nat) : extRsv ext op < 8 := by
  unfold extRsv; split <;> (try split) <;> omega

theorem dst_write_ok (d : Dst) (p : Bytes) (h : d.failAt = none) :
    d.write p = (true, { d with writes := d.writes ++ [p], calls := d.calls + 1 }) := by
  unfold Dst.write; simp [h]

theorem popMask_eq (e : Env) : e.popMask = (e.masks.headD Mask.zero, { e with masks := e.masks.drop 1 }) := by
  obtain ⟨d, ms⟩ := e; cases ms <;> rfl

theorem popMask_wf (e : Env) (h : EnvOk e) : e.popMask.1.WF ∧ EnvOk e.popMask.2 := by
  rw [popMask_eq]
  refine ⟨?_, ⟨fun m hm => h.masks_wf m (List.mem_of_mem_drop hm), h.no_fail⟩⟩
  cases hm : e.masks with
  | nil => exact Mask.zero_wf
  | cons m ms => exact h.masks_wf m (by simp [hm])

def wireHeader (client : Bool) (h0 : Header) (m : Mask) : Header :=
  if client then { h0 with masked := true, mask := m } else h0

def wirePayload (client : Bool) (p : Bytes) (m : Mask) : Bytes :=
  if client then xorSpec p m 0 else p

theorem sealFrame_spec (client : Bool) (h0 : Header) (p : Bytes) (e : Env) (he : EnvOk e)
    (hh : h0.WF) (hnm : h0.masked = false) (hp : Bytes.WF p) :
    ∃ e1, sealFrame client h0 p e = some (rfcEncode (wireHeader client h0 e.popMask.1),
        wirePayload client p e.popMask.1, e1)
      ∧ (rfcEncode (wireHeader client h0 e.popMask.1)).length = wHeaderSize client h0.len
      ∧ EnvOk e1 ∧ e1.dst = e.dst ∧ e1.masks = (if client then e.masks.drop 1 else e.masks) := by
  obtain ⟨hmwf, he2⟩ := popMask_wf e he
  have hsz : (rfcEncode (wireHeader client h0 e.popMask.1)).length = wHeaderSize client h0.len := by
    rw [C01.rfc_len, rfcSize_eq]
    unfold wireHeader
    cases client <;> simp [hnm]
  unfold sealFrame wireHeader wirePayload at *
  cases client
  · exact ⟨e, by simp [C01.write_eq_rfc h0 hh], hsz, he, rfl, rfl⟩
  · have hw : ({ h0 with masked := true, mask := e.popMask.1 } : Header).WF :=
      ⟨hh.1, hh.2.1, hh.2.2.1, hmwf, by simp⟩
    exact ⟨e.popMask.2, by simp [C01.write_eq_rfc _ hw, C02.cipher_eq_spec p hp _ hmwf 0], hsz, he2,
      by rw [popMask_eq], by rw [popMask_eq]; rfl⟩

/-- A frame as the writer's caller thinks of it: fin, opcode, RSV and the plain payload (`encFrames`
    gives the bytes on the wire). -/
structure AF where
  fin : Bool
  op : Nat
  rsv : Nat
  plain : Bytes
  deriving DecidableEq, Repr

def opAt (op i : Nat) : Nat := if i = 0 then op else opContinuation

/-- the i-th frame of a message of a writer configured with (op, ext) -/
def frameAt (op : Nat) (ext : Option Bool) (i : Nat) (fin : Bool) (p : Bytes) : AF :=
  ⟨fin, opAt op i, extRsv ext (opAt op i), p⟩

def _root_.Ws.Wr.af (w : Wr) (fin : Bool) (p : Bytes) : AF := frameAt w.op w.ext w.fseq fin p

theorem af_eq (w : Wr) (fin : Bool) (p : Bytes) :
    w.af fin p = ⟨fin, w.opCode, extRsv w.ext w.opCode, p⟩ := by
  unfold Wr.af frameAt opAt Wr.opCode
  by_cases h : w.fseq = 0
  · simp [h]
  · have : w.fseq > 0 := Nat.pos_of_ne_zero h
    simp [h, this]

@[simp] theorem af_plain (w : Wr) (fin : Bool) (p : Bytes) : (w.af fin p).plain = p := rfl
@[simp] theorem af_fin (w : Wr) (fin : Bool) (p : Bytes) : (w.af fin p).fin = fin := rfl

def encAF (client : Bool) (f : AF) (m : Mask) : Bytes :=
  rfcEncode (wireHeader client ⟨f.fin, f.rsv, f.op, false, Mask.zero, f.plain.length⟩ m) ++ wirePayload client f.plain m

/-- bytes of a list of frames, drawing one key per frame on the client side -/
def encFrames (client : Bool) : List AF → Env → Bytes
  | [], _ => []
  | f :: fs, e => encAF client f e.popMask.1 ++ encFrames client fs (if client then e.popMask.2 else e)

theorem encFrames_masks (c : Bool) (fs : List AF) (e1 e2 : Env) (h : e1.masks = e2.masks) :
    encFrames c fs e1 = encFrames c fs e2 := by
  induction fs generalizing e1 e2 with
  | nil => rfl
  | cons f fs ih =>
    have hp : e1.popMask.1 = e2.popMask.1 ∧ e1.popMask.2.masks = e2.popMask.2.masks := by
      rw [popMask_eq, popMask_eq, h]; exact ⟨rfl, rfl⟩
    simp only [encFrames, hp.1]
    congr 1
    cases c
    · exact ih e1 e2 h
    · exact ih _ _ hp.2

/-- `Sent c e fs e'`: between `e` and `e'` the destination (still healthy) received exactly the
    encodings of the frames `fs`, each client frame masked with the next key of `e`. -/
structure Sent (c : Bool) (e : Env) (fs : List AF) (e' : Env) : Prop where
  ok : EnvOk e'
  bytes : e'.dst.writes.flatten = e.dst.writes.flatten ++ encFrames c fs e
  masks : e'.masks = (if c then e.masks.drop fs.length else e.masks)

theorem Sent.nil (c : Bool) (e : Env) (he : EnvOk e) : Sent c e [] e :=
  ⟨he, by simp [encFrames], by simp⟩

/-- One frame, in however many destination writes (`ws`: one for a flush, two for WriteThrough). -/
theorem Sent.one {c : Bool} {e e' : Env} {f : AF} (ws : List Bytes) (ok : EnvOk e')
    (hw : e'.dst.writes = e.dst.writes ++ ws) (hf : ws.flatten = encAF c f e.popMask.1)
    (hm : e'.masks = (if c then e.masks.drop 1 else e.masks)) : Sent c e [f] e' :=
  ⟨ok, by rw [hw, List.flatten_append, hf]; simp [encFrames], hm⟩

/-- The frames after the first `a.length` draw their keys from what those left. -/
theorem encFrames_append (c : Bool) (a b : List AF) (e : Env) :
    encFrames c (a ++ b) e
      = encFrames c a e ++ encFrames c b (if c then { e with masks := e.masks.drop a.length } else e) := by
  induction a generalizing e with
  | nil => cases c <;> simp [encFrames]
  | cons f fs ih =>
    simp only [List.cons_append, encFrames, ih, List.append_assoc]
    cases c <;> simp [popMask_eq]

theorem Sent.append {c : Bool} {e e1 e2 : Env} {a b : List AF} (h1 : Sent c e a e1) (h2 : Sent c e1 b e2) :
    Sent c e (a ++ b) e2 := by
  refine ⟨h2.ok, ?_, ?_⟩
  · have hm : e1.masks = (if c then { e with masks := e.masks.drop a.length } else e).masks := by
      rw [h1.masks]; cases c <;> rfl
    rw [h2.bytes, h1.bytes, List.append_assoc, encFrames_append, encFrames_masks c b e1 _ hm]
  · rw [h2.masks, h1.masks, List.length_append]
    cases c
    · simp
    · simp [List.drop_drop]

/-- The header template is the one both `flushFragment` and `writeThrough` build. -/
theorem seal_af (w : Wr) (fin : Bool) (p : Bytes) (e : Env) (he : EnvOk e) (hop : w.op < 16)
    (hp : Bytes.WF p) (hlen : p.length < 2 ^ 63) :
    ∃ hb pl e1, sealFrame w.client ⟨fin, extRsv w.ext w.opCode, w.opCode, false, Mask.zero, p.length⟩ p e
        = some (hb, pl, e1)
      ∧ hb ++ pl = encAF w.client (w.af fin p) e.popMask.1
      ∧ hb.length = wHeaderSize w.client p.length
      ∧ EnvOk e1 ∧ e1.dst = e.dst ∧ e1.masks = (if w.client then e.masks.drop 1 else e.masks) := by
  have hoc : w.opCode < 16 := by unfold Wr.opCode opContinuation; split <;> omega
  obtain ⟨e1, hs, hsz, h1, h2, h3⟩ := sealFrame_spec w.client
    ⟨fin, extRsv w.ext w.opCode, w.opCode, false, Mask.zero, p.length⟩ p e he
    ⟨extRsv_lt _ _, hoc, hlen, Mask.zero_wf, fun _ => rfl⟩ rfl hp
  exact ⟨_, _, e1, hs, by rw [af_eq]; rfl, hsz, h1, h2, h3⟩

/-- Go's unexported `flushFragment(fin)`, in which both `Flush` and `FlushFragment` end: one
    destination write, and no panic, since by `reserve_sufficient` the header fits the reserved
    space. -/
theorem flushFragment_spec (w : Wr) (e : Env) (fin : Bool) (hinv : Inv w) (he : EnvOk e)
    (hop : w.op < 16) (hbuf : Bytes.WF w.buf) (hlen : w.buf.length < 2 ^ 63) :
    ∃ e', w.flushFragment e fin = some (true, e') ∧ EnvOk e'
      ∧ e'.dst.writes = e.dst.writes ++ [encAF w.client (w.af fin w.buf) e.popMask.1]
      ∧ e'.masks = (if w.client then e.masks.drop 1 else e.masks) := by
  obtain ⟨hb, pl, e1, hs, henc, hsz, h1, h2, h3⟩ := seal_af w fin w.buf e he hop hbuf hlen
  have hfit : ¬ hb.length > w.off := by
    have hf := hinv.fits
    rw [Wr.size, hinv.off_eq] at hf
    have := reserve_sufficient w.client w.rawLen w.buf.length hf
    rw [hsz, hinv.off_eq]; omega
  simp only [Wr.flushFragment, hs, if_neg hfit, dst_write_ok _ _ h1.no_fail]
  exact ⟨_, rfl, ⟨h1.masks_wf, h1.no_fail⟩, by rw [← h2, ← henc], h3⟩

def flushTemplate (w : Wr) (fin : Bool) : Header :=
  { fin, rsv := extRsv w.ext w.opCode, op := w.opCode, masked := false, mask := Mask.zero, len := w.buf.length }

theorem encAF_flush (w : Wr) (fin : Bool) (m : Mask) :
    encAF w.client (w.af fin w.buf) m
      = rfcEncode (wireHeader w.client (flushTemplate w fin) m) ++ wirePayload w.client w.buf m := by
  rw [af_eq]; rfl

/-- A final flush with nothing written emits nothing and changes nothing. -/
theorem empty_flush_emits_nothing (w : Wr) (e : Env) (hd : w.dirty = false) (hb : w.buf = [])
    (herr : w.err = false) : w.flush e = some (none, w, e) := by
  unfold Wr.flush; simp [hd, hb, herr]

/-- Flush: one final frame carrying everything buffered; afterwards the writer is at a message
    boundary (fseq = 0, not dirty, empty buffer) and the invariant holds. -/
theorem flush_spec (w : Wr) (e : Env) (hinv : Inv w) (he : EnvOk e) (hop : w.op < 16)
    (hbuf : Bytes.WF w.buf) (hlen : w.buf.length < 2 ^ 63) (herr : w.err = false)
    (hdirty : w.dirty = true ∨ w.buf ≠ []) :
    ∃ w' e', w.flush e = some (none, w', e') ∧ Inv w' ∧ EnvOk e'
      ∧ w' = { w with buf := [], dirty := false, fseq := 0 }
      ∧ e'.dst.writes = e.dst.writes ++ [rfcEncode (wireHeader w.client (flushTemplate w true) e.popMask.1)
                                          ++ wirePayload w.client w.buf e.popMask.1]
      ∧ e'.masks = (if w.client then e.masks.drop 1 else e.masks) := by
  obtain ⟨e', h1, h2, h3, h4⟩ := flushFragment_spec w e true hinv he hop hbuf hlen
  have hc : (!w.dirty && w.buf.length == 0) = false := by
    rcases hdirty with h | h
    · simp [h]
    · simp [h]
  simp only [Wr.flush, hc, herr, h1, Bool.or_false, Bool.false_eq_true, if_false, if_true, Bool.not_true]
  exact ⟨_, _, rfl, ⟨hinv.off_eq, hinv.room, Nat.zero_le _⟩, h2, rfl, by rw [h3, encAF_flush], h4⟩

/-- `Wr.flushFrag` (Go's exported `FlushFragment`) with something buffered: one non-final frame
    carrying it; the next frame of the message will be a continuation. -/
theorem flushFrag_spec (w : Wr) (e : Env) (hinv : Inv w) (he : EnvOk e) (hop : w.op < 16)
    (hbuf : Bytes.WF w.buf) (hlen : w.buf.length < 2 ^ 63) (herr : w.err = false) (hb : w.buf ≠ []) :
    ∃ e', w.flushFrag e = some (none, { w with buf := [], fseq := w.fseq + 1 }, e')
      ∧ Sent w.client e [w.af false w.buf] e' := by
  obtain ⟨e', h1, h2, h3, h4⟩ := flushFragment_spec w e false hinv he hop hbuf hlen
  have hc : (w.buf.length == 0) = false := by simp [hb]
  simp only [Wr.flushFrag, hc, herr, h1, Bool.or_false, Bool.false_eq_true, if_false, if_true, Bool.not_true]
  exact ⟨e', rfl, Sent.one [_] h2 h3 (by simp) h4⟩

/-- WriteThrough on an empty buffer: one non-final frame with the caller's bytes, in two destination
    writes (header, payload); the caller's bytes are reported as accepted in full. -/
theorem writeThrough_spec (w : Wr) (e : Env) (p : Bytes) (he : EnvOk e) (hop : w.op < 16)
    (hp : Bytes.WF p) (hlen : p.length < 2 ^ 63) (herr : w.err = false) (hb : w.buf = []) :
    ∃ e', w.writeThrough e p = some (p.length, none, { w with dirty := true, fseq := w.fseq + 1 }, e')
      ∧ Sent w.client e [w.af false p] e' := by
  obtain ⟨hd, pl, e1, hs, henc, _, h1, h2, h3⟩ := seal_af w false p e he hop hp hlen
  simp only [Wr.writeThrough, herr, hb, hs, List.length_nil, bne_self_eq_false, Bool.false_eq_true, if_false,
    dst_write_ok, h1.no_fail, Bool.not_true, if_true]
  exact ⟨_, rfl, Sent.one [hd, pl] ⟨h1.masks_wf, rfl⟩ (by simp [h2]) (by simpa using henc) h3⟩

theorem write_loop_fits (fuel : Nat) (w : Wr) (e : Env) (p : Bytes) (n : Nat)
    (hfit : p.length ≤ w.available) (herr : w.err = false) :
    Wr.write.loop fuel w e p n = some (n + p.length, none, { w with buf := w.buf ++ p }, e) := by
  have hc : ¬ p.length > w.available := by omega
  unfold Wr.write.loop
  simp only [herr, hc, decide_false, Bool.false_and, Bool.false_eq_true, if_false]

theorem write_loop_through (fuel : Nat) (w : Wr) (e : Env) (p : Bytes) (n : Nat)
    (hbig : p.length > w.available) (herr : w.err = false) (hnf : w.noFlush = false) (hb : w.buf = [])
    {nn : Nat} {r : Option WErr} {w' : Wr} {e' : Env} (h : w.writeThrough e p = some (nn, r, w', e')) :
    Wr.write.loop (fuel + 1) w e p n = Wr.write.loop fuel w' e' (p.drop nn) (n + nn) := by
  rw [Wr.write.loop]
  simp only [herr, hbig, hnf, hb, h, decide_true, Bool.not_false, Bool.and_self, if_true, Bool.false_eq_true,
    if_false, List.length_nil, beq_self_eq_true]

theorem write_loop_topup (fuel : Nat) (w : Wr) (e : Env) (p : Bytes) (n : Nat)
    (hbig : p.length > w.available) (herr : w.err = false) (hnf : w.noFlush = false) (hb : w.buf ≠ [])
    {r : Option WErr} {w' : Wr} {e' : Env}
    (h : Wr.flushFrag { w with buf := w.buf ++ p.take w.available } e = some (r, w', e')) :
    Wr.write.loop (fuel + 1) w e p n = Wr.write.loop fuel w' e' (p.drop w.available) (n + w.available) := by
  have hc : (w.buf.length == 0) = false := by simp [hb]
  rw [Wr.write.loop]
  simp only [herr, hnf] at h
  simp only [herr, hbig, hnf, hc, h, decide_true, Bool.not_false, Bool.and_self, if_true, Bool.false_eq_true,
    if_false]

theorem write_fits (w : Wr) (e : Env) (p : Bytes) (hfit : p.length ≤ w.available) (herr : w.err = false) :
    w.write e p = some (p.length, none, { w with dirty := true, buf := w.buf ++ p }, e) := by
  rw [Wr.write, write_loop_fits 6 { w with dirty := true } e p 0 hfit herr, Nat.zero_add]

example : (newWriterBuffer false 1 16).map (·.size) = some 14 := by decide
example : ∃ w, newWriterBuffer true 2 131 = some w ∧ Inv w := ⟨_, rfl, @inv_new true 2 131 _ rfl⟩

inductive WOp where
  | write (p : Bytes)
  | writeThrough (p : Bytes)
  | flushFrag
  | flush

/-- frame-level semantics: new state, frames emitted, bytes reported as accepted -/
def _root_.Ws.Wr.stepA (w : Wr) : WOp → Wr × List AF × Bytes
  | .flush =>
    if !w.dirty && w.buf.length == 0 then (w, [], [])
    else ({ w with buf := [], dirty := false, fseq := 0 }, [w.af true w.buf], [])
  | .flushFrag =>
    if w.buf.length == 0 then (w, [], [])
    else ({ w with buf := [], fseq := w.fseq + 1 }, [w.af false w.buf], [])
  | .writeThrough p =>
    if w.buf.length != 0 then (w, [], [])      -- ErrNotEmpty: nothing accepted, nothing sent
    else ({ w with dirty := true, fseq := w.fseq + 1 }, [w.af false p], p)
  | .write p =>
    let w0 := { w with dirty := true }
    if p.length ≤ w0.available then ({ w0 with buf := w0.buf ++ p }, [], p)
    else if w0.buf.length == 0 then ({ w0 with fseq := w0.fseq + 1 }, [w0.af false p], p)
    else
      let av := w0.available
      let f1 := w0.af false (w0.buf ++ p.take av)
      let w1 := { w0 with buf := [], fseq := w0.fseq + 1 }
      let p' := p.drop av
      if p'.length ≤ w1.available then ({ w1 with buf := p' }, [f1], p)
      else ({ w1 with fseq := w1.fseq + 1 }, [f1, w1.af false p'], p)

/-- `w.stepA (.write p)` case by case, conditions and results in terms of `w` itself, not of the
    `{ w with dirty := true }` the definition works from. -/
theorem stepA_write (w : Wr) (p : Bytes) :
    (p.length ≤ w.available ∧ w.stepA (.write p) = ({ w with dirty := true, buf := w.buf ++ p }, [], p))
    ∨ (w.available < p.length
      ∧ ((w.buf = [] ∧ w.stepA (.write p) = ({ w with dirty := true, fseq := w.fseq + 1 }, [w.af false p], p))
        ∨ (w.buf ≠ []
          ∧ (((p.drop w.available).length ≤ w.size
              ∧ w.stepA (.write p) = ({ w with dirty := true, buf := p.drop w.available, fseq := w.fseq + 1 },
                  [w.af false (w.buf ++ p.take w.available)], p))
            ∨ (w.size < (p.drop w.available).length
              ∧ w.stepA (.write p) = ({ w with dirty := true, buf := [], fseq := w.fseq + 1 + 1 },
                  [w.af false (w.buf ++ p.take w.available),
                   ({ w with fseq := w.fseq + 1 } : Wr).af false (p.drop w.available)], p)))))) := by
  by_cases hA : p.length ≤ w.available
  · exact .inl ⟨hA, if_pos hA⟩
  refine .inr ⟨Nat.lt_of_not_le hA, ?_⟩
  by_cases hB : w.buf = []
  · exact .inl ⟨hB, (if_neg hA).trans (if_pos (by simp [hB]))⟩
  refine .inr ⟨hB, ?_⟩
  have hB' : ¬ (w.buf.length == 0) = true := by simp [hB]
  by_cases hC : (p.drop w.available).length ≤ w.size
  · exact .inl ⟨hC, (if_neg hA).trans ((if_neg hB').trans (if_pos hC))⟩
  · exact .inr ⟨Nat.lt_of_not_le hC, (if_neg hA).trans ((if_neg hB').trans (if_neg hC))⟩

def runA (w : Wr) : List WOp → Wr × List AF × Bytes
  | [] => (w, [], [])
  | o :: os =>
    let (w1, f1, a1) := w.stepA o
    let (w2, f2, a2) := runA w1 os
    (w2, f1 ++ f2, a1 ++ a2)

/-- frames i, i+1, … of a message still open: none final, opcode and RSV as the position demands -/
def openOK (op : Nat) (ext : Option Bool) : Nat → List AF → Prop
  | _, [] => True
  | i, f :: fs => f.fin = false ∧ f.op = opAt op i ∧ f.rsv = extRsv ext (opAt op i) ∧ openOK op ext (i + 1) fs

/-- one whole message: frames 0..k-1 not final, frame k final -/
def msgOK (op : Nat) (ext : Option Bool) (m : List AF) : Prop :=
  ∃ pre last, m = pre ++ [last] ∧ openOK op ext 0 pre ∧ last.fin = true ∧ last.op = opAt op pre.length
    ∧ last.rsv = extRsv ext (opAt op pre.length)

theorem openOK_append (op : Nat) (ext : Option Bool) (i : Nat) (a b : List AF) :
    openOK op ext i (a ++ b) ↔ openOK op ext i a ∧ openOK op ext (i + a.length) b := by
  induction a generalizing i with
  | nil => simp [openOK]
  | cons f fs ih =>
    simp only [List.cons_append, openOK, ih, List.length_cons, and_assoc, Nat.add_assoc, Nat.add_comm 1]

/-- what has been sent so far: complete messages, then the frames of the message still open.
    `opn.length = w.fseq` and `cfg` are all that tie the frames to the writer's state: the next frame,
    `Wr.af`, looks at `fseq`, `op` and `ext` only. -/
structure Trace (op : Nat) (ext : Option Bool) (fs : List AF) (w : Wr) : Prop where
  split : ∃ (msgs : List (List AF)) (opn : List AF), fs = msgs.flatten ++ opn ∧ (∀ m ∈ msgs, msgOK op ext m) ∧ openOK op ext 0 opn
            ∧ opn.length = w.fseq
  cfg : w.op = op ∧ w.ext = ext

theorem trace_emit_open {op : Nat} {ext : Option Bool} {fs : List AF} {w : Wr} (h : Trace op ext fs w) (p : Bytes) (w' : Wr)
    (hf : w'.fseq = w.fseq + 1) (hc : w'.op = w.op ∧ w'.ext = w.ext) :
    Trace op ext (fs ++ [w.af false p]) w' := by
  obtain ⟨⟨msgs, opn, h1, h2, h3, h4⟩, hcfg⟩ := h
  refine ⟨⟨msgs, opn ++ [w.af false p], by rw [h1, List.append_assoc], h2, ?_, by simp [h4, hf]⟩,
    by rw [hc.1, hc.2]; exact hcfg⟩
  rw [openOK_append]
  refine ⟨h3, ?_⟩
  simp only [openOK, Wr.af, frameAt, Nat.zero_add, h4, hcfg.1, hcfg.2, and_self]

theorem trace_emit_fin {op : Nat} {ext : Option Bool} {fs : List AF} {w : Wr} (h : Trace op ext fs w) (p : Bytes) (w' : Wr)
    (hf : w'.fseq = 0) (hc : w'.op = w.op ∧ w'.ext = w.ext) :
    Trace op ext (fs ++ [w.af true p]) w' := by
  obtain ⟨⟨msgs, opn, h1, h2, h3, h4⟩, hcfg⟩ := h
  refine ⟨⟨msgs ++ [opn ++ [w.af true p]], [], ?_, ?_, trivial, by simp [hf]⟩, by rw [hc.1, hc.2]; exact hcfg⟩
  · rw [h1]; simp
  · intro m hm
    rcases List.mem_append.mp hm with hm | hm
    · exact h2 m hm
    · simp only [List.mem_singleton] at hm
      subst hm
      exact ⟨opn, w.af true p, rfl, h3, rfl, by simp [Wr.af, frameAt, h4, hcfg.1], by simp [Wr.af, frameAt, h4, hcfg.1, hcfg.2]⟩

theorem stepA_ok (op : Nat) (ext : Option Bool) (fs : List AF) (w : Wr) (o : WOp) (h : Trace op ext fs w) :
    Trace op ext (fs ++ (w.stepA o).2.1) (w.stepA o).1
    ∧ ((w.stepA o).2.1.flatMap (·.plain)) ++ (w.stepA o).1.buf = w.buf ++ (w.stepA o).2.2
    ∧ (∀ f ∈ (w.stepA o).2.1, f.fin = true → o = .flush) := by
  cases o with
  | flush =>
    simp only [Wr.stepA]
    split
    · refine ⟨by rw [List.append_nil]; exact h, by simp, by simp⟩
    · refine ⟨trace_emit_fin h w.buf _ rfl ⟨rfl, rfl⟩, by simp, by simp⟩
  | flushFrag =>
    simp only [Wr.stepA]
    split
    · refine ⟨by rw [List.append_nil]; exact h, by simp, by simp⟩
    · refine ⟨trace_emit_open h w.buf _ rfl ⟨rfl, rfl⟩, by simp, by simp⟩
  | writeThrough p =>
    simp only [Wr.stepA]
    split
    · refine ⟨by rw [List.append_nil]; exact h, by simp, by simp⟩
    · rename_i hc
      have hb : w.buf = [] := by simpa using hc
      refine ⟨trace_emit_open h p _ rfl ⟨rfl, rfl⟩, by simp [hb], by simp⟩
  | write p =>
    rcases stepA_write w p with ⟨_, e⟩ | ⟨_, ⟨hb, e⟩ | ⟨_, ⟨_, e⟩ | ⟨_, e⟩⟩⟩ <;> rw [e]
    · exact ⟨by rw [List.append_nil]; exact ⟨h.split, h.cfg⟩, by simp, by simp⟩  -- a trace looks at fseq, op, ext only
    · exact ⟨trace_emit_open h p _ rfl ⟨rfl, rfl⟩, by simp [hb], by simp⟩
    · exact ⟨trace_emit_open h _ _ rfl ⟨rfl, rfl⟩, by simp, by simp⟩
    · have t1 := trace_emit_open h (w.buf ++ p.take w.available) { w with fseq := w.fseq + 1 } rfl ⟨rfl, rfl⟩
      exact ⟨by rw [List.append_cons]; exact trace_emit_open t1 _ _ rfl ⟨rfl, rfl⟩, by simp, by simp⟩

theorem runA_ok (op : Nat) (ext : Option Bool) (ops : List WOp) : ∀ (w : Wr) (pre : List AF), Trace op ext pre w →
    Trace op ext (pre ++ (runA w ops).2.1) (runA w ops).1
    ∧ ((runA w ops).2.1.flatMap (·.plain)) ++ (runA w ops).1.buf = w.buf ++ (runA w ops).2.2 := by
  induction ops with
  | nil => intro w pre h; simpa [runA] using h
  | cons o os ih =>
    intro w pre h
    obtain ⟨t1, b1, _⟩ := stepA_ok op ext pre w o h
    obtain ⟨t2, b2⟩ := ih (w.stepA o).1 (pre ++ (w.stepA o).2.1) t1
    simp only [runA]
    refine ⟨by simpa [List.append_assoc] using t2, ?_⟩
    simp only [List.flatMap_append, List.append_assoc]
    rw [b2, ← List.append_assoc, b1, List.append_assoc]

/-- From a writer at a message boundary, after any sequence of Write / WriteThrough /
    FlushFragment / Flush: the frames sent are whole messages followed by the (non-final) frames
    of the message still open — first frame with the configured opcode and the extension's RSV,
    the others continuations with RSV 0, exactly the last frame of each message final; and the
    concatenated payloads followed by what is still buffered are exactly the bytes reported as
    accepted, in order. (That final frames come from Flush only is the third part of `stepA_ok`,
    operation by operation.) -/
theorem history_ok (w0 : Wr) (ops : List WOp) (hfresh : w0.fseq = 0) :
    let r := runA w0 ops
    Trace w0.op w0.ext r.2.1 r.1 ∧ (r.2.1.flatMap (·.plain)) ++ r.1.buf = w0.buf ++ r.2.2 := by
  simpa using runA_ok w0.op w0.ext ops w0 [] ⟨⟨[], [], rfl, by simp, trivial, by simp [hfresh]⟩, rfl, rfl⟩

theorem stepA_inv (w : Wr) (o : WOp) (h : Inv w) : Inv (w.stepA o).1 := by
  cases o with
  | flush | flushFrag => simp only [Wr.stepA]; split <;> first | exact h | exact ⟨h.off_eq, h.room, Nat.zero_le _⟩
  | writeThrough p => simp only [Wr.stepA]; split <;> exact ⟨h.off_eq, h.room, h.fits⟩
  | write p =>
    rcases stepA_write w p with ⟨hA, e⟩ | ⟨_, ⟨_, e⟩ | ⟨_, ⟨hC, e⟩ | ⟨_, e⟩⟩⟩ <;> rw [e]
    · refine ⟨h.off_eq, h.room, show (w.buf ++ p).length ≤ w.size from ?_⟩
      have hf := h.fits
      rw [Wr.available] at hA
      rw [List.length_append]
      omega
    · exact ⟨h.off_eq, h.room, h.fits⟩
    · exact ⟨h.off_eq, h.room, hC⟩
    · exact ⟨h.off_eq, h.room, Nat.zero_le _⟩

theorem write_loop_through_done (fuel : Nat) (w : Wr) (e : Env) (p : Bytes) (n : Nat) (he : EnvOk e)
    (hop : w.op < 16) (hp : Bytes.WF p) (hlen : p.length < 2 ^ 63) (hbig : p.length > w.available)
    (herr : w.err = false) (hnf : w.noFlush = false) (hb : w.buf = []) :
    ∃ e', Wr.write.loop (fuel + 1) w e p n
        = some (n + p.length, none, { w with dirty := true, fseq := w.fseq + 1 }, e')
      ∧ Sent w.client e [w.af false p] e' := by
  obtain ⟨e1, g1, g2⟩ := writeThrough_spec w e p he hop hp hlen herr hb
  rw [write_loop_through fuel w e p n hbig herr hnf hb g1, List.drop_length,
    write_loop_fits fuel { w with dirty := true, fseq := w.fseq + 1 } e1 [] _ (Nat.zero_le _) herr]
  exact ⟨e1, by simp only [hb, List.append_nil, List.length_nil, Nat.add_zero], g2⟩

/-- Case by case as in `stepA_write`: at most twice round the loop. -/
theorem write_loop_refines (w : Wr) (e : Env) (p : Bytes) (hinv : Inv w) (he : EnvOk e) (hop : w.op < 16)
    (hbuf : Bytes.WF w.buf) (hp : Bytes.WF p) (hlen : w.rawLen + p.length < 2 ^ 63)
    (herr : w.err = false) (hnf : w.noFlush = false) (hd : w.dirty = true) :
    ∃ e', Wr.write.loop 6 w e p 0 = some (p.length, none, (w.stepA (.write p)).1, e')
      ∧ Sent w.client e (w.stepA (.write p)).2.1 e' := by
  have hf := hinv.fits
  have hp63 : p.length < 2 ^ 63 := Nat.lt_of_le_of_lt (Nat.le_add_left ..) hlen
  rcases stepA_write w p with ⟨hA, eq⟩ | ⟨hA, ⟨hB, eq⟩ | ⟨hB, hrest⟩⟩
  · rw [eq, write_loop_fits 6 w e p 0 hA herr, Nat.zero_add, hd]
    exact ⟨e, rfl, Sent.nil _ _ he⟩
  · obtain ⟨e1, g1, g2⟩ := write_loop_through_done 5 w e p 0 he hop hp hp63 hA herr hnf hB
    rw [eq, g1, Nat.zero_add]
    exact ⟨e1, rfl, g2⟩
  · have hfull : (w.buf ++ p.take w.available).length = w.size := by
      rw [List.length_append, List.length_take]; unfold Wr.available at hA ⊢; omega
    obtain ⟨e1, g1, g2⟩ := flushFrag_spec { w with buf := w.buf ++ p.take w.available } e
      ⟨hinv.off_eq, hinv.room, Nat.le_of_eq hfull⟩ he hop (Bytes.wf_append.mpr ⟨hbuf, hp.take _⟩)
      (by rw [hfull]; exact Nat.lt_of_le_of_lt (Nat.le_trans (Nat.sub_le ..) (Nat.le_add_right ..)) hlen) herr (by simp [hB])
    have hsum : 0 + w.available + (p.drop w.available).length = p.length := by rw [List.length_drop]; omega
    rcases hrest with ⟨hC, eq⟩ | ⟨hC, eq⟩ <;> rw [eq, write_loop_topup 5 w e p 0 hA herr hnf hB g1]
    · rw [write_loop_fits 5 { w with buf := [], fseq := w.fseq + 1 } e1 _ _ hC herr, hsum, hd]
      exact ⟨e1, rfl, g2⟩
    · obtain ⟨e2, k1, k2⟩ := write_loop_through_done 4 { w with buf := [], fseq := w.fseq + 1 } e1 _
        (0 + w.available) g2.ok hop (hp.drop _) (by rw [List.length_drop]; exact Nat.lt_of_le_of_lt (Nat.sub_le ..) hp63) hC herr hnf rfl
      rw [k1, hsum]
      exact ⟨e2, rfl, g2.append k2⟩

theorem inv_dirty (w : Wr) (h : Inv w) (d : Bool) : Inv { w with dirty := d } :=
  ⟨h.off_eq, h.room, h.fits⟩

/-- Write refines the frame level (flushing enabled, healthy destination): whatever the size of
    `p` relative to the buffer — it is buffered, or sent through as one non-final frame, or the
    buffer is topped up and flushed as a non-final frame and the rest buffered or sent through —
    all of `p` is accepted, and the destination receives exactly the encodings of the frames the
    frame-level writer emits (with the keys drawn in order). -/
theorem write_refines (w : Wr) (e : Env) (p : Bytes) (hinv : Inv w) (he : EnvOk e) (hop : w.op < 16)
    (hbuf : Bytes.WF w.buf) (hp : Bytes.WF p) (hlen : w.rawLen + p.length < 2 ^ 63)
    (herr : w.err = false) (hnf : w.noFlush = false) :
    ∃ e', w.write e p = some (p.length, none, (w.stepA (.write p)).1, e')
      ∧ Inv (w.stepA (.write p)).1 ∧ EnvOk e'
      ∧ e'.dst.writes.flatten = e.dst.writes.flatten ++ encFrames w.client (w.stepA (.write p)).2.1 e
      ∧ e'.masks = (if w.client then e.masks.drop (w.stepA (.write p)).2.1.length else e.masks) := by
  -- marking dirty twice is marking dirty once: `{ w with dirty := true }.stepA` and `w.stepA` unfold to the same
  obtain ⟨e', h1, h2⟩ := write_loop_refines { w with dirty := true } e p (inv_dirty w hinv true) he hop hbuf hp
    hlen herr hnf rfl
  exact ⟨e', h1, stepA_inv w _ hinv, h2.ok, h2.bytes, h2.masks⟩

/-- one operation of the byte-level writer (results dropped: the refinement lemmas say what they are) -/
def stepC (w : Wr) (e : Env) : WOp → Option (Wr × Env)
  | .write p => (w.write e p).map fun r => (r.2.2.1, r.2.2.2)
  | .writeThrough p => (w.writeThrough e p).map fun r => (r.2.2.1, r.2.2.2)
  | .flushFrag => (w.flushFrag e).map fun r => (r.2.1, r.2.2)
  | .flush => (w.flush e).map fun r => (r.2.1, r.2.2)

def runC (w : Wr) (e : Env) : List WOp → Option (Wr × Env)
  | [] => some (w, e)
  | o :: os => match stepC w e o with
    | none => none
    | some (w1, e1) => runC w1 e1 os

/-- what the run-level theorem carries from operation to operation -/
structure Good (w : Wr) : Prop where
  inv : Inv w
  op : w.op < 16
  buf : Bytes.WF w.buf
  err : w.err = false
  nf : w.noFlush = false
  raw : w.rawLen < 2 ^ 63

/-- the caller's bytes are bytes, and sizes stay below 2^63 (Go's int) -/
def OpOK (rawLen : Nat) : WOp → Prop
  | .write p => Bytes.WF p ∧ rawLen + p.length < 2 ^ 63
  | .writeThrough p => Bytes.WF p ∧ p.length < 2 ^ 63
  | _ => True

theorem stepA_fields (w : Wr) (o : WOp) :
    (w.stepA o).1.client = w.client ∧ (w.stepA o).1.op = w.op ∧ (w.stepA o).1.rawLen = w.rawLen
    ∧ (w.stepA o).1.err = w.err ∧ (w.stepA o).1.noFlush = w.noFlush ∧ (w.stepA o).1.ext = w.ext := by
  cases o <;> simp only [Wr.stepA] <;> (repeat' split) <;> simp

theorem stepA_buf_wf (w : Wr) (o : WOp) (hb : Bytes.WF w.buf) (ho : OpOK w.rawLen o) : Bytes.WF (w.stepA o).1.buf := by
  cases o with
  | flush | flushFrag => simp only [Wr.stepA]; split <;> first | exact hb | exact Bytes.WF.nil
  | writeThrough p => simp only [Wr.stepA]; split <;> exact hb
  | write p =>
    rcases stepA_write w p with ⟨_, e⟩ | ⟨_, ⟨_, e⟩ | ⟨_, ⟨_, e⟩ | ⟨_, e⟩⟩⟩ <;> rw [e]
    · exact Bytes.wf_append.mpr ⟨hb, ho.1⟩
    · exact hb
    · exact ho.1.drop _
    · exact Bytes.WF.nil

theorem stepA_good (w : Wr) (o : WOp) (hg : Good w) (ho : OpOK w.rawLen o) : Good (w.stepA o).1 := by
  obtain ⟨_, f2, f3, f4, f5, _⟩ := stepA_fields w o
  exact ⟨stepA_inv w o hg.inv, by rw [f2]; exact hg.op, stepA_buf_wf w o hg.buf ho, by rw [f4]; exact hg.err,
    by rw [f5]; exact hg.nf, by rw [f3]; exact hg.raw⟩

/-- One operation of the byte-level writer does what the frame-level writer says: same new state,
    and the destination receives exactly the encodings of the frames it emits. -/
theorem stepC_refines (w : Wr) (e : Env) (o : WOp) (hg : Good w) (he : EnvOk e) (ho : OpOK w.rawLen o) :
    ∃ e', stepC w e o = some ((w.stepA o).1, e') ∧ Sent w.client e (w.stepA o).2.1 e' := by
  have hlen : w.buf.length < 2 ^ 63 := Nat.lt_of_le_of_lt (Nat.le_trans hg.inv.fits (Nat.sub_le ..)) hg.raw
  cases o with
  | flush =>
    by_cases hc : (!w.dirty && w.buf.length == 0) = true
    · have hc' := hc
      simp only [Bool.and_eq_true, Bool.not_eq_true', beq_iff_eq, List.length_eq_zero_iff] at hc'
      simp only [stepC, Wr.stepA, hc, if_true, empty_flush_emits_nothing w e hc'.1 hc'.2 hg.err, Option.map_some]
      exact ⟨e, rfl, Sent.nil _ _ he⟩
    · obtain ⟨e', h1, h2, h3, h4⟩ := flushFragment_spec w e true hg.inv he hg.op hg.buf hlen
      simp only [stepC, Wr.stepA, Wr.flush, hc, hg.err, h1, Bool.or_false, Bool.false_eq_true, if_false, if_true,
        Bool.not_true, Option.map_some]
      exact ⟨e', rfl, Sent.one [_] h2 h3 (by simp) h4⟩
  | flushFrag =>
    by_cases hb : w.buf = []
    · simp only [stepC, Wr.stepA, Wr.flushFrag, hb, hg.err, List.length_nil, beq_self_eq_true, Bool.true_or, if_true,
        Bool.false_eq_true, if_false, Option.map_some]
      exact ⟨e, rfl, Sent.nil _ _ he⟩
    · obtain ⟨e', h1, h2⟩ := flushFrag_spec w e hg.inv he hg.op hg.buf hlen hg.err hb
      have hc : (w.buf.length == 0) = false := by simp [hb]
      simp only [stepC, Wr.stepA, hc, Bool.false_eq_true, if_false, h1, Option.map_some]
      exact ⟨e', rfl, h2⟩
  | writeThrough p =>
    by_cases hb : w.buf = []
    · obtain ⟨e', h1, h2⟩ := writeThrough_spec w e p he hg.op ho.1 ho.2 hg.err hb
      simp only [stepC, Wr.stepA, hb, List.length_nil, bne_self_eq_false, Bool.false_eq_true, if_false, h1,
        Option.map_some]
      exact ⟨e', rfl, h2⟩
    · -- ErrNotEmpty: nothing accepted, nothing sent, nothing drawn
      have hne : (w.buf.length != 0) = true := by simp [hb]
      simp only [stepC, Wr.stepA, Wr.writeThrough, hg.err, hne, Bool.false_eq_true, if_false, if_true,
        Option.map_some]
      exact ⟨e, rfl, Sent.nil _ _ he⟩
  | write p =>
    obtain ⟨e', h1, _, h3, h4, h5⟩ := write_refines w e p hg.inv he hg.op hg.buf ho.1 ho.2 hg.err hg.nf
    exact ⟨e', by simp only [stepC, h1, Option.map_some], h3, h4, h5⟩

/-- Every history, byte for byte: starting from any writer in good standing (constructed by
    NewWriterBuffer/NewWriterSize, or reached by earlier operations), with a destination that does not
    fail and flushing enabled, after any sequence of Write / WriteThrough / FlushFragment / Flush the
    byte-level writer is in exactly the state of the frame-level writer, and the destination has
    received exactly the RFC 6455 encodings of the frames the frame-level writer emitted, in order,
    each client frame masked with the next key drawn. -/
theorem run_refines (ops : List WOp) : ∀ (w : Wr) (e : Env), Good w → EnvOk e → (∀ o ∈ ops, OpOK w.rawLen o) →
    ∃ e', runC w e ops = some ((runA w ops).1, e') ∧ Good (runA w ops).1 ∧ EnvOk e'
      ∧ e'.dst.writes.flatten = e.dst.writes.flatten ++ encFrames w.client (runA w ops).2.1 e
      ∧ e'.masks = (if w.client then e.masks.drop (runA w ops).2.1.length else e.masks) := by
  induction ops with
  | nil =>
    intro w e hg he _
    have s := Sent.nil w.client e he
    exact ⟨e, rfl, hg, he, s.bytes, s.masks⟩
  | cons o os ih =>
    intro w e hg he hops
    obtain ⟨e1, s1, s2⟩ := stepC_refines w e o hg he (hops o (List.mem_cons_self ..))
    obtain ⟨f1, _, f3, _⟩ := stepA_fields w o
    obtain ⟨e2, r1, r2, r3, r4, r5⟩ := ih (w.stepA o).1 e1 (stepA_good w o hg (hops o (List.mem_cons_self ..))) s2.ok
      (fun o' ho' => by rw [f3]; exact hops o' (List.mem_cons_of_mem _ ho'))
    rw [f1] at r4 r5
    have s := s2.append ⟨r3, r4, r5⟩
    simp only [runC, s1, runA]
    exact ⟨e2, r1, r2, s.ok, s.bytes, s.masks⟩

/-- C06 as stated, for the bytes on the wire: from a new writer, after any history, what
    the peer has received is the encoding of whole messages followed by the non-final frames of the
    message still open, and their payloads plus what is still buffered are exactly the accepted
    bytes, in order. -/
theorem wire_history_ok (w0 : Wr) (e : Env) (ops : List WOp) (hg : Good w0) (he : EnvOk e)
    (hfresh : w0.fseq = 0) (hempty : w0.buf = []) (hops : ∀ o ∈ ops, OpOK w0.rawLen o) :
    ∃ e', runC w0 e ops = some ((runA w0 ops).1, e')
      ∧ e'.dst.writes.flatten = e.dst.writes.flatten ++ encFrames w0.client (runA w0 ops).2.1 e
      ∧ Trace w0.op w0.ext (runA w0 ops).2.1 (runA w0 ops).1
      ∧ (runA w0 ops).2.1.flatMap (·.plain) ++ (runA w0 ops).1.buf = (runA w0 ops).2.2 := by
  obtain ⟨e', r1, _, _, r4, _⟩ := run_refines ops w0 e hg he hops
  obtain ⟨t, c⟩ := history_ok w0 ops hfresh
  exact ⟨e', r1, r4, t, by rw [c, hempty]; rfl⟩

def written : List WOp → Bytes
  | [] => []
  | .write p :: os => p ++ written os
  | _ :: os => written os

def noThrough : List WOp → Bool
  | [] => true
  | .writeThrough _ :: _ => false
  | _ :: os => noThrough os

/-- With Write / FlushFragment / Flush only, every byte handed to Write is accepted: the accepted
    bytes of the frame level are the written bytes, whatever the sizes. -/
theorem accepted_is_written (ops : List WOp) (w : Wr) (h : noThrough ops = true) :
    (runA w ops).2.2 = written ops := by
  induction ops generalizing w with
  | nil => rfl
  | cons o os ih =>
    cases o with
    | writeThrough p => simp [noThrough] at h
    | write p =>
      have : (w.stepA (.write p)).2.2 = p := by
        rcases stepA_write w p with ⟨_, e⟩ | ⟨_, ⟨_, e⟩ | ⟨_, ⟨_, e⟩ | ⟨_, e⟩⟩⟩ <;> rw [e]
      simp only [runA, written, this, ih _ h]
    | flush =>
      have : (w.stepA .flush).2.2 = [] := by simp only [Wr.stepA]; split <;> rfl
      simp only [runA, written, this, ih _ h, List.nil_append]
    | flushFrag =>
      have : (w.stepA .flushFrag).2.2 = [] := by simp only [Wr.stepA]; split <;> rfl
      simp only [runA, written, this, ih _ h, List.nil_append]

/-- A writer built by NewWriterBuffer(client, binary, 20 bytes) is in good standing at a message
    boundary, and a history with a write larger than the buffer meets the per-operation premise. -/
example : ∃ w, newWriterBuffer true 2 20 = some w ∧ Good w ∧ w.fseq = 0 ∧ w.buf = []
    ∧ (∀ o ∈ [WOp.write (List.replicate 50 7), .flushFrag, .write [1, 2], .flush], OpOK w.rawLen o) := by
  refine ⟨_, rfl, ⟨@inv_new true 2 20 _ rfl, by decide, Bytes.WF.nil, rfl, rfl, by decide⟩, rfl, rfl, ?_⟩
  intro o ho
  simp only [List.mem_cons, List.mem_nil_iff, or_false] at ho
  rcases ho with rfl | rfl | rfl | rfl
  · exact ⟨by intro x hx; rw [List.eq_of_mem_replicate hx]; decide, by decide⟩
  · trivial
  · exact ⟨by decide, by decide⟩
  · trivial

end Ws.C06
