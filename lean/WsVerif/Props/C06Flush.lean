/-
  C06 — "If no Write() or ReadFrom() was made, then Flush() does nothing" (the doc comment of
  Writer.Flush), as theorems about the writer model: a Flush right after Reset / ResetOp, and a
  second Flush after a successful one, send nothing and change nothing.
-/
import WsVerif.Props.C06
import WsVerif.Props.C18
namespace Ws.C06
open Ws

/-- Reset(dest, state, op): whatever the previous user left (an unfinished message, a failed
    destination), the next Flush sends nothing. -/
theorem flush_after_reset_noop (w w' : Wr) (client : Bool) (op : Nat) (h : w.reset client op = some w') (e : Env) :
    w'.flush e = some (none, w', e) := by
  rw [C18.writer_reset_fresh] at h
  obtain ⟨_, rfl⟩ := newWriterBuffer_eq_some.1 h
  exact empty_flush_emits_nothing _ e rfl rfl rfl

/-- ResetOp on a healthy writer: the next Flush sends nothing. -/
theorem flush_after_resetOp_noop (w : Wr) (op : Nat) (he : w.err = false) (e : Env) :
    (w.resetOp op).flush e = some (none, w.resetOp op, e) :=
  empty_flush_emits_nothing _ e rfl rfl he

/-- A second Flush after a successful one sends nothing. -/
theorem flush_twice_noop (w w1 : Wr) (e e1 : Env) (h : w.flush e = some (none, w1, e1)) :
    w1.flush e1 = some (none, w1, e1) := by
  suffices hw : w1.dirty = false ∧ w1.buf = [] ∧ w1.err = false from
    empty_flush_emits_nothing w1 e1 hw.1 hw.2.1 hw.2.2
  unfold Wr.flush at h
  cases herr : w.err
  · rw [herr] at h
    split at h
    · -- nothing to flush: the writer comes back as it is
      rename_i hc
      simp only [Bool.or_false, Bool.and_eq_true, Bool.not_eq_true', beq_iff_eq, List.length_eq_zero_iff] at hc
      cases h
      exact ⟨hc.1, hc.2, herr⟩
    · split at h
      · cases h
      · rename_i ok e' _
        cases ok
        · cases h
        · cases h; exact ⟨rfl, rfl, rfl⟩
  · -- the sticky error is reported again
    rw [herr] at h
    simp at h

/-- A writer left dirty, with buffered bytes and a failed destination, can be Reset (to the client
    side: its 20-byte buffer holds the header). -/
example : ∃ w', Wr.reset { client := false, op := 1, rawLen := 20, off := 4, buf := [1, 2], dirty := true, err := true, fseq := 3 } true 2 = some w' :=
  ⟨_, rfl⟩

end Ws.C06
