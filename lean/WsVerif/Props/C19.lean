/-
  C19 — Concurrent connections do not interfere through the library's shared pools.

  Theorem (for every number of sessions, every program obeying the library's get/put discipline,
  every initial pool content and every schedule): what each session observes is what its own
  program computes alone (`symRun`, which mentions neither the heap nor the pool nor any other
  session), and no buffer is ever held by two sessions or held while in the pool.
  The invariant `Inv` is ownership (who holds which buffer, nothing twice) together with `SessOk` for every
  session (its state agrees with `symRun` of what it has done); one lemma per kind of action (`Inv.take`, `Inv.give`,
  `Inv.same_owners`) gives `inv_step`.

  Partial by nature (DESIGN.md §6.C19): the scheduler interleaves whole actions; the Go memory
  model (data races inside an action), sync.Pool's internals, the garbage collector and
  math/rand's lock are not in the model. They are observed by the race-detector harness.
-/
import WsVerif.Model.Pools
namespace Ws.C19
open Ws Ws.Pools

/-- A session's concrete state agrees with its own heap-free computation. -/
structure SessOk (mem : Buf → Bytes) (s : Sess) : Prop where
  hist : s.hist = (symRun s.done).hist
  len : s.held.length = (symRun s.done).stack.length
  cont : ∀ (k : Nat) (b : Buf) (c : Bytes), s.held[k]? = some b → (symRun s.done).stack[k]? = some (some c) → mem b = c
  disc : discFrom (symRun s.done) s.todo = true

structure Inv (w : World) : Prop where
  poolNodup : w.pool.Nodup
  poolLt : ∀ b ∈ w.pool, b < w.next
  heldNodup : ∀ i, (w.ss i).held.Nodup
  heldLt : ∀ i, ∀ b ∈ (w.ss i).held, b < w.next
  heldNotPool : ∀ i, ∀ b ∈ (w.ss i).held, b ∉ w.pool
  disjoint : ∀ i j, i ≠ j → ∀ b ∈ (w.ss i).held, b ∉ (w.ss j).held
  ok : ∀ i, SessOk w.mem (w.ss i)

theorem symRun_snoc (as : List Act) (a : Act) : symRun (as ++ [a]) = symStep (symRun as) a := by
  simp [symRun, List.foldl_append]

section Sess
variable {mem : Buf → Bytes} {s : Sess} {a : Act} {rest : List Act}

theorem SessOk.of_upd (h : SessOk mem s) (b : Buf) (v : Bytes)
    (hb : b ∉ s.held) : SessOk (upd mem b v) s := by
  refine ⟨h.hist, h.len, ?_, h.disc⟩
  intro k b' c hk hc
  have : b' ≠ b := by
    intro e; subst e
    exact hb (List.mem_of_getElem? hk)
  simp only [upd, this, if_false]
  exact h.cont k b' c hk hc

theorem SessOk.disc_cons (h : SessOk mem s) (ht : s.todo = a :: rest) :
    discFrom (symRun s.done) [a] = true ∧ discFrom (symRun (s.done ++ [a])) rest = true := by
  have hd := h.disc
  rw [ht] at hd
  simpa [discFrom, symRun_snoc] using hd

theorem SessOk.fill_slot {k f} (h : SessOk mem s) (ht : s.todo = .fill k f :: rest) :
    ∃ b, s.held[k]? = some b := by
  have hk : k < s.held.length := by simpa [discFrom, h.len] using (h.disc_cons ht).1
  exact ⟨_, List.getElem?_eq_getElem hk⟩

theorem SessOk.read_slot {k} (h : SessOk mem s) (ht : s.todo = .read k :: rest) :
    ∃ b, s.held[k]? = some b ∧ (symRun s.done).stack[k]? = some (some (mem b)) := by
  have hpre := (h.disc_cons ht).1
  simp only [discFrom, Bool.and_true] at hpre
  split at hpre
  next c hc =>
    have hk : k < s.held.length := h.len ▸ (List.getElem?_eq_some_iff.mp hc).1
    have hb := List.getElem?_eq_getElem hk
    exact ⟨_, hb, by rw [h.cont k _ c hb hc]; exact hc⟩
  next => cases hpre

theorem SessOk.put_slot (h : SessOk mem s) (ht : s.todo = .put :: rest) :
    ∃ b hs, s.held = b :: hs := by
  have hpre := (h.disc_cons ht).1
  cases hh : s.held with
  | cons b hs => exact ⟨b, hs, rfl⟩
  | nil =>
    have : (symRun s.done).stack = [] := List.length_eq_zero_iff.mp (by rw [← h.len, hh]; rfl)
    simp [discFrom, this] at hpre

theorem SessOk.get (h : SessOk mem s) (ht : s.todo = .get :: rest) (b : Buf) :
    SessOk mem { s with todo := rest, done := s.done ++ [.get], held := b :: s.held } := by
  refine ⟨?_, ?_, ?_, (h.disc_cons ht).2⟩
  · simp [symRun_snoc, symStep, h.hist]
  · simp [symRun_snoc, symStep, h.len]
  · intro k b' c hk hc
    simp only [symRun_snoc, symStep] at hc
    cases k with
    | zero => simp at hc
    | succ k => exact h.cont k b' c hk hc

theorem SessOk.put {b hs} (h : SessOk mem s) (ht : s.todo = .put :: rest) (hh : s.held = b :: hs) :
    SessOk mem { s with todo := rest, done := s.done ++ [.put], held := hs } := by
  have hlen := h.len
  rw [hh] at hlen
  refine ⟨?_, ?_, ?_, (h.disc_cons ht).2⟩
  · simp [symRun_snoc, symStep, h.hist]
  · simp only [symRun_snoc, symStep, List.length_tail, ← hlen, List.length_cons, Nat.add_sub_cancel]
  · intro k b' c hk hc
    simp only [symRun_snoc, symStep, List.getElem?_tail] at hc
    exact h.cont (k + 1) b' c (by rw [hh]; exact hk) hc

theorem SessOk.read {k b} (h : SessOk mem s) (ht : s.todo = .read k :: rest)
    (hc : (symRun s.done).stack[k]? = some (some (mem b))) :
    SessOk mem { s with todo := rest, done := s.done ++ [.read k], hist := s.hist ++ [mem b] } := by
  have hσ : symRun (s.done ++ [.read k]) = { symRun s.done with hist := s.hist ++ [mem b] } := by
    simp [symRun_snoc, symStep, hc, h.hist]
  refine ⟨?_, ?_, ?_, (h.disc_cons ht).2⟩
  · rw [hσ]
  · rw [hσ]; exact h.len
  · rw [hσ]; exact h.cont

theorem SessOk.fill {k f b} (h : SessOk mem s) (ht : s.todo = .fill k f :: rest)
    (hnd : s.held.Nodup) (hk : s.held[k]? = some b) :
    SessOk (upd mem b (f s.hist)) { s with todo := rest, done := s.done ++ [.fill k f] } := by
  have hlt : k < (symRun s.done).stack.length := h.len ▸ (List.getElem?_eq_some_iff.mp hk).1
  have hσ : symRun (s.done ++ [.fill k f])
      = { symRun s.done with stack := (symRun s.done).stack.set k (some (f s.hist)) } := by
    simp [symRun_snoc, symStep, hlt, h.hist]
  refine ⟨?_, ?_, ?_, (h.disc_cons ht).2⟩
  · rw [hσ]; exact h.hist
  · rw [hσ]; simp [h.len]
  · -- the written slot holds what `symStep` says; any other slot is a different buffer, the held list having
    -- no repetition, and keeps its contents
    intro k' b' c hk' hc
    rw [hσ] at hc
    by_cases hkk : k' = k
    · subst hkk
      rw [List.getElem?_set_self hlt] at hc
      cases hk.symm.trans hk'
      cases hc
      simp [upd]
    · rw [List.getElem?_set_ne (Ne.symm hkk)] at hc
      have hne : b' ≠ b := fun e =>
        hkk ((List.getElem?_inj (List.getElem?_eq_some_iff.mp hk').1 hnd).mp (by rw [hk', hk, e]))
      simp only [upd, hne, if_false]
      exact h.cont k' b' c hk' hc

end Sess

section Own
variable {w : World} {i : Nat} {s' : Sess}

theorem SessOk.set {mem : Buf → Bytes} {ss : Nat → Sess} (hi : SessOk mem s')
    (ho : ∀ j, j ≠ i → SessOk mem (ss j)) (j : Nat) : SessOk mem (if j = i then s' else ss j) := by
  split
  · exact hi
  · exact ho j ‹_›

/-- Ownership looks only at the pool, the counter and the held lists: an action that leaves them
    alone (fill, read) has to answer for the sessions' agreement only. -/
theorem Inv.same_owners {mem' : Buf → Bytes} (h : Inv w) (oki : SessOk mem' s')
    (hs : s'.held = (w.ss i).held) (oko : ∀ j, j ≠ i → SessOk mem' (w.ss j)) :
    Inv { w with mem := mem', ss := fun j => if j = i then s' else w.ss j } := by
  have hh : ∀ j, (if j = i then s' else w.ss j).held = (w.ss j).held := by
    intro j; split
    · subst j; exact hs
    · rfl
  refine ⟨h.poolNodup, h.poolLt, ?_, ?_, ?_, ?_, oki.set oko⟩
  · simp only [hh]; exact h.heldNodup
  · simp only [hh]; exact h.heldLt
  · simp only [hh]; exact h.heldNotPool
  · simp only [hh]; exact h.disjoint

/-- A never used id is as good as one lying in the pool. -/
theorem Inv.grow (h : Inv w) : Inv { w with pool := w.next :: w.pool, next := w.next + 1 } := by
  refine ⟨?_, ?_, h.heldNodup, ?_, ?_, h.disjoint, h.ok⟩
  · exact List.nodup_cons.mpr ⟨fun hm => Nat.lt_irrefl _ (h.poolLt _ hm), h.poolNodup⟩
  · intro x hx
    rcases List.mem_cons.mp hx with rfl | hx
    · exact Nat.lt_succ_self _
    · exact Nat.lt_succ_of_lt (h.poolLt x hx)
  · intro j x hx; exact Nat.lt_succ_of_lt (h.heldLt j x hx)
  · intro j x hx hxp
    rcases List.mem_cons.mp hxp with rfl | hxp
    · exact Nat.lt_irrefl _ (h.heldLt j _ hx)
    · exact h.heldNotPool j x hx hxp

theorem Inv.take {b p'} (h : Inv w) (hp : w.pool = b :: p') (hs : s'.held = b :: (w.ss i).held)
    (ok : SessOk w.mem s') :
    Inv { w with pool := p', ss := fun j => if j = i then s' else w.ss j } := by
  have hnd : (b :: p').Nodup := hp ▸ h.poolNodup
  have hbp : b ∈ w.pool := hp ▸ List.mem_cons_self
  have sub : ∀ x, x ∈ p' → x ∈ w.pool := fun x hx => hp ▸ List.mem_cons_of_mem _ hx
  -- what a session holds afterwards: what it held before, and `b` if it is session `i`
  have was : ∀ j x, x ∈ (if j = i then s' else w.ss j).held → x ∈ (w.ss j).held ∨ x = b ∧ j = i := by
    intro j x hx; split at hx
    · rw [hs] at hx; subst j
      exact (List.mem_cons.mp hx).symm.imp id (⟨·, rfl⟩)
    · exact .inl hx
  refine ⟨(List.nodup_cons.mp hnd).2, fun x hx => h.poolLt x (sub x hx), ?_, ?_, ?_, ?_,
    ok.set fun j _ => h.ok j⟩
  · intro j; dsimp only; split
    · rw [hs]; subst j
      exact List.nodup_cons.mpr ⟨fun hm => h.heldNotPool _ b hm hbp, h.heldNodup _⟩
    · exact h.heldNodup j
  · intro j x hx
    rcases was j x hx with hx | ⟨rfl, _⟩
    · exact h.heldLt j x hx
    · exact h.poolLt _ hbp
  · intro j x hx hxp
    rcases was j x hx with hx | ⟨rfl, _⟩
    · exact h.heldNotPool j x hx (sub x hxp)
    · exact (List.nodup_cons.mp hnd).1 hxp
  · intro j l hjl x hx hx'
    rcases was j x hx, was l x hx' with ⟨hj | ⟨rfl, rfl⟩, hl | ⟨e, rfl⟩⟩
    · exact h.disjoint j l hjl x hj hl
    · exact h.heldNotPool j _ hj (e ▸ hbp)
    · exact h.heldNotPool l _ hl hbp
    · exact hjl rfl

theorem Inv.give {b} (h : Inv w) (hh : (w.ss i).held = b :: s'.held) (ok : SessOk w.mem s') :
    Inv { w with pool := b :: w.pool, ss := fun j => if j = i then s' else w.ss j } := by
  have hnd : (b :: s'.held).Nodup := hh ▸ h.heldNodup i
  have hbi : b ∈ (w.ss i).held := hh ▸ List.mem_cons_self
  -- what a session holds afterwards it held before, and it is not `b`
  have was : ∀ j x, x ∈ (if j = i then s' else w.ss j).held → x ∈ (w.ss j).held ∧ x ≠ b := by
    intro j x hx; split at hx
    · subst j
      exact ⟨hh ▸ List.mem_cons_of_mem _ hx, fun e => (List.nodup_cons.mp hnd).1 (e ▸ hx)⟩
    · exact ⟨hx, fun e => h.disjoint i j (Ne.symm ‹_›) b hbi (e ▸ hx)⟩
  refine ⟨?_, ?_, ?_, ?_, ?_, ?_, ok.set fun j _ => h.ok j⟩
  · exact List.nodup_cons.mpr ⟨h.heldNotPool i b hbi, h.poolNodup⟩
  · intro x hx
    rcases List.mem_cons.mp hx with rfl | hx
    · exact h.heldLt i _ hbi
    · exact h.poolLt x hx
  · intro j; dsimp only; split
    · exact (List.nodup_cons.mp hnd).2
    · exact h.heldNodup j
  · intro j x hx; exact h.heldLt j x (was j x hx).1
  · intro j x hx hxp
    rcases List.mem_cons.mp hxp with e | hxp
    · exact (was j x hx).2 e
    · exact h.heldNotPool j x (was j x hx).1 hxp
  · intro j l hjl x hx hx'
    exact h.disjoint j l hjl x (was j x hx).1 (was l x hx').1

end Own

theorem inv_step (w : World) (i : Nat) (h : Inv w) : Inv (w.step i) := by
  have hok := h.ok i
  unfold World.step
  cases htodo : (w.ss i).todo with
  | nil => simp only [htodo]; exact h
  | cons a rest =>
    simp only [htodo]
    cases a with
    | get =>
      cases hp : w.pool with
      | cons b p' => exact h.take hp rfl (hok.get htodo b)
      | nil => exact h.grow.take (congrArg (w.next :: ·) hp) rfl (hok.get htodo w.next)
    | fill k f =>
      obtain ⟨b, hk⟩ := hok.fill_slot htodo
      simp only [hk]
      refine h.same_owners (hok.fill htodo (h.heldNodup i) hk) rfl fun j hj => (h.ok j).of_upd _ _ ?_
      exact h.disjoint i j (Ne.symm hj) b (List.mem_of_getElem? hk)
    | read k =>
      obtain ⟨b, hk, hc⟩ := hok.read_slot htodo
      simp only [hk]
      exact h.same_owners (hok.read htodo hc) rfl fun j _ => h.ok j
    | put =>
      obtain ⟨b, hs, hh⟩ := hok.put_slot htodo
      simp only [hh]
      exact h.give hh (hok.put htodo hh)

theorem inv_run (w : World) (sched : List Nat) (h : Inv w) : Inv (w.run sched) := by
  induction sched generalizing w with
  | nil => exact h
  | cons i is ih => exact ih _ (inv_step w i h)

/-- Any pool content (distinct buffers, stale bytes of any kind) is a legal start. -/
theorem inv_init (progs : List (List Act)) (pool : List Buf) (next : Nat) (mem : Buf → Bytes)
    (hnd : pool.Nodup) (hlt : ∀ b ∈ pool, b < next) (hd : ∀ p ∈ progs, Disc p = true) :
    Inv (World.init progs pool next mem) := by
  refine ⟨hnd, hlt, fun _ => List.nodup_nil, nofun, nofun, nofun, fun i => ⟨rfl, rfl, nofun, ?_⟩⟩
  simp only [World.init, symRun, List.foldl_nil]
  by_cases hi : i < progs.length
  · have : progs.getD i [] ∈ progs := by
      simp [List.getD, List.getElem?_eq_getElem hi]
    exact hd _ this
  · simp [List.getD, List.getElem?_eq_none (Nat.le_of_not_lt hi), discFrom]

/-- Whatever the number of sessions, their programs (under the discipline),
    the initial pool and its stale contents, and the schedule: what session `i` has observed is
    what its own executed actions compute alone. -/
theorem noninterference (progs : List (List Act)) (pool : List Buf) (next : Nat) (mem : Buf → Bytes)
    (hnd : pool.Nodup) (hlt : ∀ b ∈ pool, b < next) (hd : ∀ p ∈ progs, Disc p = true)
    (sched : List Nat) (i : Nat) :
    let s := ((World.init progs pool next mem).run sched).ss i
    s.hist = (symRun s.done).hist :=
  ((inv_run _ sched (inv_init progs pool next mem hnd hlt hd)).ok i).hist

/-- No buffer is ever held by two sessions, or held while sitting in the pool. -/
theorem ownership_inv (progs : List (List Act)) (pool : List Buf) (next : Nat) (mem : Buf → Bytes)
    (hnd : pool.Nodup) (hlt : ∀ b ∈ pool, b < next) (hd : ∀ p ∈ progs, Disc p = true)
    (sched : List Nat) :
    let w := (World.init progs pool next mem).run sched
    (∀ i j, i ≠ j → ∀ b ∈ (w.ss i).held, b ∉ (w.ss j).held) ∧ (∀ i, ∀ b ∈ (w.ss i).held, b ∉ w.pool) :=
  let h := inv_run _ sched (inv_init progs pool next mem hnd hlt hd)
  ⟨h.disjoint, h.heldNotPool⟩

theorem step_done_todo (w : World) (j i : Nat) :
    ((w.step j).ss i).done ++ ((w.step j).ss i).todo = (w.ss i).done ++ (w.ss i).todo := by
  unfold World.step
  cases htodo : (w.ss j).todo with
  | nil => simp only [htodo]
  | cons a rest =>
    -- whichever way the action goes, session `j` moves `a` from `todo` to `done`; the others stay
    simp only [htodo]
    by_cases hij : i = j
    · subst hij
      cases a <;> simp only <;> split <;> simp [htodo]
    · cases a <;> simp only <;> split <;> simp [hij]

theorem done_todo (w : World) (sched : List Nat) (i : Nat) :
    ((w.run sched).ss i).done ++ ((w.run sched).ss i).todo = (w.ss i).done ++ (w.ss i).todo := by
  induction sched generalizing w with
  | nil => rfl
  | cons j js ih => rw [World.run, ih, step_done_todo]

theorem done_of_finished (progs : List (List Act)) (pool : List Buf) (next : Nat) (mem : Buf → Bytes)
    (sched : List Nat) (i : Nat) (hfin : (((World.init progs pool next mem).run sched).ss i).todo = []) :
    (((World.init progs pool next mem).run sched).ss i).done = progs.getD i [] := by
  have := done_todo (World.init progs pool next mem) sched i
  rwa [hfin, List.append_nil] at this

/-- A session that has run to completion among any number of others,
    under any schedule and any pool history, has observed exactly what it observes when it is the
    only session and starts from an empty pool. -/
theorem same_as_alone (progs : List (List Act)) (pool : List Buf) (next : Nat) (mem mem' : Buf → Bytes)
    (hnd : pool.Nodup) (hlt : ∀ b ∈ pool, b < next) (hd : ∀ p ∈ progs, Disc p = true)
    (sched solo : List Nat) (i : Nat) (hi : i < progs.length)
    (hfin : (((World.init progs pool next mem).run sched).ss i).todo = [])
    (hfin' : (((World.init [progs[i]] [] 0 mem').run solo).ss 0).todo = []) :
    (((World.init progs pool next mem).run sched).ss i).hist
      = (((World.init [progs[i]] [] 0 mem').run solo).ss 0).hist := by
  -- either way the session has observed what its executed actions compute alone, and those are all of `progs[i]`
  have h1 := noninterference progs pool next mem hnd hlt hd sched i
  have h2 := noninterference [progs[i]] [] 0 mem' List.nodup_nil nofun
    (by simpa using hd _ (List.getElem_mem hi)) solo 0
  simp only at h1 h2
  rw [h1, h2, done_of_finished _ _ _ _ _ _ hfin, done_of_finished _ _ _ _ _ _ hfin']
  simp [List.getD, hi]

/-- Upgrader.Upgrade: GetReader, GetWriter, fill the reader from the connection, read it, fill the
    writer with the response (a function of what was read), flush (read), deferred PutWriter, PutReader. -/
def upgradeProg (req : Bytes) : List Act :=
  [.get, .get, .fill 1 (fun _ => req), .read 1, .fill 0 (fun h => h.flatten.reverse), .read 0, .put, .put]

/-- writeFrame on the client side: GetLen, copy the caller's payload, mask in place, write, Put. -/
def writeProg (p : Bytes) (k : Nat) : List Act :=
  [.get, .fill 0 (fun _ => p), .fill 0 (fun _ => p.map (· ^^^ k)), .read 0, .put]

example : Disc (upgradeProg [1, 2, 3]) = true ∧ Balanced (upgradeProg [1, 2, 3]) = true := by decide
example : Disc (writeProg [7, 8] 5) = true ∧ Balanced (writeProg [7, 8] 5) = true := by decide
/-- Two sessions fighting over one pooled buffer with stale contents, interleaved action by action. -/
example :
    let w := (World.init [upgradeProg [1, 2, 3], writeProg [7, 8] 5] [0] 1 (fun _ => [0xAA, 0xAA])).run
      [0, 1, 0, 1, 1, 0, 1, 1, 0, 0, 0, 0, 0]
    (w.ss 0).hist = [[1, 2, 3], [3, 2, 1]] ∧ (w.ss 1).hist = [[2, 13]] ∧ (w.ss 0).todo = [] ∧ (w.ss 1).todo = [] := by
  decide

/-- A program that reads a pooled buffer before writing it is outside the discipline — and really
    does observe another session's bytes (why the discipline is needed). -/
def leakyProg : List Act := [.get, .read 0, .put]
theorem leaky_not_disc : Disc leakyProg = false := by decide
theorem leaky_observes_others :
    (((World.init [writeProg [7, 8] 0, leakyProg] [] 0 (fun _ => [])).run [0, 0, 0, 0, 0, 1, 1, 1]).ss 1).hist
      = [[7, 8]] := by decide

end Ws.C19
