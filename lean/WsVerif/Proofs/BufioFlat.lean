/-
  readLine over a bufio.Reader is a function of the flat byte stream (`readLine_spec`, against `lineSpec`):
  the line returned is the bytes up to the first LF (CR stripped), whatever the transport's chunking,
  whatever the buffer size, whether the last bytes arrive together with the end of the stream or not.
  The only assumption on the transport is that it never returns (0, nil) (an empty chunk; bufio gives up
  with io.ErrNoProgress after 100 of those, which is chunking-dependent, in Go as in the model).
-/
import WsVerif.Proofs.Bufio
namespace Ws

/-- A bufio.Reader in good standing: a recorded error means the transport is exhausted and is its end. -/
structure BOK (b : Bufio) : Prop where
  cap : 0 < b.cap
  ne : b.src.NoEmpty
  err : ∀ f, b.err = some f → b.src.chunks = [] ∧ f = b.src.fin

/-- What decreases with every transport read: the bytes to come, and the end of the transport not yet seen. -/
def Bufio.meas (b : Bufio) : Nat := b.src.bytes.length + (if b.err.isNone then 1 else 0)

theorem src_read_ok {s s' : Src} {k : Nat} {got : Bytes} {e : Option Fin} (hk : 0 < k) (hne : s.NoEmpty)
    (h : s.read k = (got, e, s')) :
    s'.NoEmpty ∧ s'.fin = s.fin ∧ (∀ f, e = some f → s'.chunks = [] ∧ f = s.fin) ∧ (e = none → got ≠ []) := by
  have herr : ∀ f, e = some f → s'.chunks = [] ∧ f = s.fin := fun f hf => by
    have := Src.read_err (s := s) (k := k) (f := f) (by rw [h, hf])
    rwa [h] at this
  revert h
  -- no chunk left; a chunk that fits; a chunk cut at `k`
  fun_cases Src.read s k
  case case1 => rintro ⟨⟩; exact ⟨hne, rfl, herr, nofun⟩
  case case2 c cs hc hle =>
    rintro ⟨⟩
    rw [Src.NoEmpty, hc] at hne
    exact ⟨fun x hx => hne x (List.mem_cons_of_mem _ hx), rfl, herr, fun _ => hne _ List.mem_cons_self⟩
  case case3 c cs hc hle =>
    rintro ⟨⟩
    rw [Src.NoEmpty, hc] at hne
    refine ⟨fun x hx => ?_, rfl, nofun, fun _ he => ?_⟩
    · rcases List.mem_cons.mp hx with rfl | hx
      · exact fun he => hle (List.drop_eq_nil_iff.mp he)
      · exact hne x (List.mem_cons_of_mem _ hx)
    · rcases List.take_eq_nil_iff.mp he with rfl | rfl
      · cases hk
      · exact hne _ List.mem_cons_self rfl

theorem fill_spec (b : Bufio) (hok : BOK b) (hnone : b.err = none) (hlt : b.buf.length < b.cap) :
    BOK b.fill ∧ b.fill.src.fin = b.src.fin ∧ b.fill.cap = b.cap ∧ b.fill.meas < b.meas := by
  unfold Bufio.fill Bufio.fill.go
  simp only
  rcases hr : b.src.read (b.cap - b.buf.length) with ⟨got, e, s'⟩
  obtain ⟨h1, h2, h3, h4⟩ := src_read_ok (by omega) hok.ne hr
  have hlen : b.src.bytes.length = got.length + s'.bytes.length := by
    rw [Src.read_conserve b.src (b.cap - b.buf.length), hr, List.length_append]
  cases e with
  | some f =>
    refine ⟨⟨hok.cap, h1, fun f' hf' => ?_⟩, h2, rfl, ?_⟩
    · cases hf'; rw [h2]; exact h3 f rfl
    · simp only [Bufio.meas, hnone, Option.isNone_some, Option.isNone_none, Bool.false_eq_true, if_false, if_true]; omega
  | none =>
    have hpos : 0 < got.length := List.length_pos_iff.mpr (h4 rfl)
    rw [if_neg (by simpa using h4 rfl)]
    refine ⟨⟨hok.cap, h1, fun f' hf' => ?_⟩, h2, rfl, ?_⟩
    · rw [hnone] at hf'; cases hf'
    · simp only [Bufio.meas, hnone, Option.isNone_none, if_true]; omega

theorem readSlice_spec {fuel : Nat} {b b' : Bufio} {bts : Bytes} {e : Option SliceErr} (hok : BOK b)
    (hm : b.meas < fuel) (h : b.readSlice fuel = (bts, e, b')) :
    BOK b' ∧ b'.src.fin = b.src.fin ∧ b'.cap = b.cap
    ∧ (match (generalizing := false) e with  -- or the match would take `h` along
       | none => ∃ pre, bts = pre ++ [10] ∧ 10 ∉ pre
       | some .bufferFull => 10 ∉ bts ∧ bts ≠ []
       | some (.io f) => 10 ∉ bts ∧ b'.all = [] ∧ f = b.src.fin) := by
  -- out of fuel; an LF in the buffer; none and the transport has ended; none and the buffer is full; fill and retry
  fun_induction Bufio.readSlice b fuel with
  | case1 => omega
  | case2 b _ i hi => cases h; exact ⟨⟨hok.cap, hok.ne, hok.err⟩, rfl, rfl, _, take_idxOf?_succ hi⟩
  | case3 b _ hi f he =>
    cases h
    obtain ⟨g1, g2⟩ := hok.err f he
    exact ⟨⟨hok.cap, hok.ne, nofun⟩, rfl, rfl, List.idxOf?_eq_none_iff.mp hi, by simp [Bufio.all, Src.bytes, g1], g2⟩
  | case4 b _ hi he hfull =>
    cases h
    refine ⟨⟨hok.cap, hok.ne, fun f hf => by cases he.symm.trans hf⟩, rfl, rfl, List.idxOf?_eq_none_iff.mp hi,
      fun hnil => ?_⟩
    have := hok.cap
    rw [hnil] at hfull; simp at hfull; omega
  | case5 b n hi he hfull ih =>
    obtain ⟨f2, f3, f4, f5⟩ := fill_spec b hok he (by omega)
    obtain ⟨r2, r3, r4, r5⟩ := ih f2 (by omega) h
    refine ⟨r2, by rw [r3, f3], by rw [r4, f4], ?_⟩
    rw [f3] at r5
    exact r5

/-- The line, the error and what remains readable, for a flat stream `all` ending in `fin`. -/
def lineSpec (all : Bytes) (fin : Fin) : Bytes × Option Fin × Bytes :=
  match all.idxOf? 10 with
  | some i => (stripEol (all.take (i + 1)), none, all.drop (i + 1))
  | none => (all, some fin, [])

theorem lineSpec_lf {a rest : Bytes} {fin : Fin} (h : 10 ∉ a) :
    lineSpec (a ++ 10 :: rest) fin = (stripEol (a ++ [10]), none, rest) := by
  unfold lineSpec
  rw [idxOf?_append_cons rest h]
  simp only
  rw [show a.length + 1 = (a ++ [10]).length by simp, show a ++ 10 :: rest = (a ++ [10]) ++ rest by simp,
    List.take_left, List.drop_left]

theorem lineSpec_none {a : Bytes} {fin : Fin} (h : 10 ∉ a) : lineSpec a fin = (a, some fin, []) := by
  rw [lineSpec, List.idxOf?_eq_none_iff.mpr h]

/-- `line` is what `readLine` has collected of the current line from full buffers so far: pieces without an LF, hence
    `10 ∉ line`; the bound says the loop's fuel outlasts what is still to read. -/
theorem readLine_go_spec : ∀ (fuel : Nat) (b : Bufio) (line : Bytes), BOK b → 10 ∉ line → b.all.length < fuel →
    ((readLine.go fuel b line).1, (readLine.go fuel b line).2.1, (readLine.go fuel b line).2.2.all)
        = lineSpec (line ++ b.all) b.src.fin
    ∧ BOK (readLine.go fuel b line).2.2 ∧ (readLine.go fuel b line).2.2.src.fin = b.src.fin
    ∧ (readLine.go fuel b line).2.2.cap = b.cap := by
  intro fuel
  induction fuel with
  | zero => intro b line _ _ h; omega
  | succ n ih =>
    intro b line hok hline hm
    have hmeas : b.meas < b.fuel := by
      unfold Bufio.meas Bufio.fuel; split <;> omega
    have s1 := Bufio.readSlice_all b b.fuel
    rw [readLine_go_succ]
    rcases hrs : b.readSlice b.fuel with ⟨bts, res, b'⟩
    obtain ⟨s2, s3, s4, s5⟩ := readSlice_spec hok hmeas hrs
    rw [hrs] at s1
    simp only at s1 ⊢
    cases res with
    | none =>
      obtain ⟨pre, rfl, hno⟩ := s5
      have hnl : 10 ∉ line ++ pre := fun h => (List.mem_append.mp h).elim hline hno
      have hl : line ++ b.all = (line ++ pre) ++ 10 :: b'.all := by rw [s1]; simp
      rw [hl, lineSpec_lf hnl, List.append_assoc]
      exact ⟨rfl, s2, s3, s4⟩
    | some se =>
      cases se with
      | bufferFull =>
        simp only
        obtain ⟨hno, hne⟩ := s5
        have hlen : b'.all.length < n := by
          have : b.all.length = bts.length + b'.all.length := by rw [s1]; simp
          have : 0 < bts.length := List.length_pos_iff.mpr hne
          omega
        have hnl : 10 ∉ line ++ bts := fun h => (List.mem_append.mp h).elim hline hno
        obtain ⟨i1, i2, i3, i4⟩ := ih b' (line ++ bts) s2 hnl hlen
        refine ⟨?_, i2, by rw [i3, s3], by rw [i4, s4]⟩
        rw [i1, s3, s1, List.append_assoc]
      | io f =>
        simp only
        obtain ⟨hno, hnil, hf⟩ := s5
        have hnl : 10 ∉ line ++ bts := fun h => (List.mem_append.mp h).elim hline hno
        refine ⟨?_, s2, s3, s4⟩
        rw [s1, hnil, List.append_nil, lineSpec_none hnl, hf]

/-- readLine is a function of the flat stream: the line, the error and what stays readable are `lineSpec` of the
    bytes ahead and the transport's end, whatever the chunking and the buffer size; the reader stays in good standing. -/
theorem readLine_spec (b : Bufio) (hok : BOK b) :
    ((readLine b).1, (readLine b).2.1, (readLine b).2.2.all) = lineSpec b.all b.src.fin
    ∧ BOK (readLine b).2.2 ∧ (readLine b).2.2.src.fin = b.src.fin ∧ (readLine b).2.2.cap = b.cap := by
  have := readLine_go_spec (b.buf.length + b.src.bytes.length + 4) b [] hok (by simp)
    (by simp only [Bufio.all, List.length_append]; omega)
  simpa [readLine] using this

theorem lineSpec_shrinks (all : Bytes) (fin : Fin) (h : (lineSpec all fin).2.1 = none) :
    (lineSpec all fin).2.2.length < all.length := by
  unfold lineSpec at h ⊢
  cases hi : all.idxOf? 10 with
  | none => simp [hi] at h
  | some i =>
    obtain ⟨hlt, _, _⟩ := List.idxOf?_eq_some_iff.mp hi
    simp only [List.length_drop]; omega

theorem BOK.readLine_ok {b : Bufio} (hok : BOK b) :
    ∃ l e b', readLine b = (l, e, b') ∧ BOK b' ∧ (e = none → b'.all.length < b.all.length) := by
  obtain ⟨a1, ok', _, _⟩ := readLine_spec b hok
  generalize readLine b = r at a1 ok'
  obtain ⟨l, e, b'⟩ := r
  refine ⟨l, e, b', rfl, ok', fun he => ?_⟩
  have := lineSpec_shrinks b.all b.src.fin (by rw [← a1]; exact he)
  rwa [← a1] at this

end Ws
