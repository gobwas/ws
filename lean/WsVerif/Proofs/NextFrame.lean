/-
  Reader.NextFrame in stages. `Rd.nextFrame` is one 40-line expression; here it is cut once into the pieces the
  proofs speak about (`hdrErr`, `gate`, `refused`, `armed`, `ctl`, `entered`, `accept`). `nextFrame_eq` says that
  this is what NextFrame is; it is the only proof that unfolds `Rd.nextFrame`.
-/
import WsVerif.Model.Reader
namespace Ws.NF
open Ws

/-- what NextFrame reports when no header could be read: a clean end of the transport is io.EOF between two
    messages and io.ErrUnexpectedEOF inside a fragmented one -/
def hdrErr (r : Rd) : HdrErr → RErr
  | .io .eof => if r.fragmented then .ueof else .eof
  | .io .ueof => .ueof
  | .io .fail => .fail
  | e => .hdr e

/-- the reader left behind when the extension refuses the frame: r.frame is not replaced, but the limited reader
    already counts the new payload and the shared cipher reader has been re-keyed if the refused frame is masked -/
def refused (r : Rd) (hdr : Header) (comp : Bool) : Rd :=
  { r with rawN := hdr.len, compressed := comp,
           mask := if hdr.masked then hdr.mask else r.mask,
           cpos := if hdr.masked then 0 else r.cpos }

/-- the frame stack set up for `hdr` (limited reader, cipher reader at position 0, no validator), the frame not yet
    installed: what an OnIntermediate handler is handed -/
def armed (r : Rd) (hdr : Header) (comp : Bool) : Rd :=
  { r with rawN := hdr.len, masked := hdr.masked, mask := hdr.mask, cpos := 0, utf8on := false, compressed := comp }

/-- the reader after a data frame is installed -/
def entered (r2 : Rd) (h : Header) : Rd :=
  let r3 := if r2.fragmented then r2 else { r2 with opCode := h.op }
  let useUtf8 := r3.checkUTF8 && (h.op == opText || (r3.fragmented && r3.opCode == opText))
  let r4 := { r3 with utf8on := useUtf8, hasFrame := true }
  { r4 with state := if h.fin then stClear r4.state stFragmented else stSet r4.state stFragmented }

abbrev Out := Option Header × Option RErr × Rd × Src × Ctx

/-- NextFrame on a control frame between the fragments of a message: OnIntermediate if set, then what it left of
    the payload drained -/
def ctl (o : Option Callback) (h : Header) (r2 : Rd) (s1 : Src) (cx : Ctx) : Out :=
  match o with
  | some cb =>
    let res := cb h r2 s1 cx
    match res.err with
    | some e => (some h, some e, res.rd, res.src, res.ctx)
    | none =>
      let (e, r3, s3) := res.rd.drainRaw res.src res.src.fuel
      (some h, e, r3, s3, res.ctx)
  | none =>
    let (e, r3, s3) := r2.drainRaw s1 s1.fuel
    (some h, e, r3, s3, cx)

/-- the decisions NextFrame takes on a header before it touches the payload: refuse it (header shown, error,
    reader left behind) or go on (header after the extension, frame stack set up) -/
def gate (r : Rd) (hdr : Header) : Except (Header × RErr × Rd) (Header × Rd) :=
  match (if r.skipCheck then none else checkHeader hdr r.state) with
  | some pe => .error (hdr, .proto pe, r)
  | none =>
    if r.maxFrame > 0 ∧ hdr.len > r.maxFrame then .error (hdr, .tooLarge, r)
    else
      let x := if r.ext then unsetBits r.compressed hdr else (hdr, none, r.compressed)
      match x.2.1 with
      | some pe => .error (x.1, .proto pe, refused r hdr x.2.2)
      | none => .ok (x.1, armed r hdr x.2.2)

/-- NextFrame once the header `hdr` has been read -/
def accept (r : Rd) (hdr : Header) (s1 : Src) (cx : Ctx) (o : Option Callback) : Out :=
  match gate r hdr with
  | .error (h, e, r') => (some h, some e, r', s1, cx)
  | .ok (h, r2) =>
    if r2.fragmented && opIsControl h.op then ctl o h r2 s1 cx
    else (some h, none, entered r2 h, s1, cx)

theorem nextFrame_eq (r : Rd) (s : Src) (cx : Ctx) (o : Option Callback) :
    r.nextFrame s cx o = match (readHeaderUtil s).1 with
      | .error e => (none, some (hdrErr r e), r, (readHeaderUtil s).2, cx)
      | .ok hdr => accept r hdr (readHeaderUtil s).2 cx o := by
  unfold Rd.nextFrame
  rcases readHeaderUtil s with ⟨res, s1⟩
  cases res with
  | error e =>
    cases e with
    | io f => cases f <;> rfl
    | _ => rfl
  | ok hdr =>
    unfold accept gate
    dsimp only
    generalize (if r.skipCheck = true then none else checkHeader hdr r.state) = ck
    generalize (if r.ext = true then unsetBits r.compressed hdr else (hdr, none, r.compressed)) = x
    cases ck with
    | some pe => rfl
    | none =>
      dsimp only
      split
      · rfl
      · obtain ⟨h2, xe, comp⟩ := x
        cases xe <;> rfl

theorem nextFrame_ok {r : Rd} {s s1 : Src} {cx : Ctx} {o : Option Callback} {hdr : Header}
    (hh : readHeaderUtil s = (.ok hdr, s1)) : r.nextFrame s cx o = accept r hdr s1 cx o := by
  rw [nextFrame_eq, hh]

theorem nextFrame_err {r : Rd} {s s1 : Src} {cx : Ctx} {o : Option Callback} {e : HdrErr}
    (hh : readHeaderUtil s = (.error e, s1)) : r.nextFrame s cx o = (none, some (hdrErr r e), r, s1, cx) := by
  rw [nextFrame_eq, hh]

theorem gate_proto {r : Rd} {hdr : Header} {pe : ProtoErr} (hskip : r.skipCheck = false)
    (hc : checkHeader hdr r.state = some pe) : gate r hdr = .error (hdr, .proto pe, r) := by
  unfold gate; rw [hskip, if_neg Bool.false_ne_true, hc]

theorem gate_tooLarge {r : Rd} {hdr : Header} (hc : (if r.skipCheck then none else checkHeader hdr r.state) = none)
    (hmax : r.maxFrame > 0) (hbig : hdr.len > r.maxFrame) : gate r hdr = .error (hdr, .tooLarge, r) := by
  unfold gate; rw [hc]; dsimp only; rw [if_pos ⟨hmax, hbig⟩]

theorem gate_plain {r : Rd} {hdr : Header} (hc : (if r.skipCheck then none else checkHeader hdr r.state) = none)
    (hmax : ¬ (r.maxFrame > 0 ∧ hdr.len > r.maxFrame)) (hext : r.ext = false) :
    gate r hdr = .ok (hdr, armed r hdr r.compressed) := by
  unfold gate; rw [hc]; dsimp only; rw [if_neg hmax, hext, if_neg Bool.false_ne_true]

theorem gate_ext_refused {r : Rd} {hdr h' : Header} {pe : ProtoErr} {c : Bool}
    (hc : (if r.skipCheck then none else checkHeader hdr r.state) = none)
    (hmax : ¬ (r.maxFrame > 0 ∧ hdr.len > r.maxFrame)) (hext : r.ext = true)
    (hx : unsetBits r.compressed hdr = (h', some pe, c)) : gate r hdr = .error (h', .proto pe, refused r hdr c) := by
  unfold gate; rw [hc]; dsimp only; rw [if_neg hmax, hext, if_pos rfl, hx]

theorem ctl_hdr (o : Option Callback) (h : Header) (r2 : Rd) (s1 : Src) (cx : Ctx) : (ctl o h r2 s1 cx).1 = some h := by
  unfold ctl
  cases o with
  | none => rfl
  | some cb => dsimp only; split <;> rfl

theorem accept_error {r r' : Rd} {hdr h : Header} {e : RErr} (hg : gate r hdr = .error (h, e, r')) (s1 : Src) (cx : Ctx)
    (o : Option Callback) : accept r hdr s1 cx o = (some h, some e, r', s1, cx) := by
  unfold accept; rw [hg]

theorem accept_enter {r r2 : Rd} {hdr h : Header} (hg : gate r hdr = .ok (h, r2)) (hno : (r2.fragmented && opIsControl h.op) = false)
    (s1 : Src) (cx : Ctx) (o : Option Callback) : accept r hdr s1 cx o = (some h, none, entered r2 h, s1, cx) := by
  unfold accept; rw [hg]; dsimp only; rw [hno]; rfl

theorem accept_ctl {r r2 : Rd} {hdr h : Header} (hg : gate r hdr = .ok (h, r2)) (hfrag : r2.fragmented = true)
    (hctl : opIsControl h.op = true) (s1 : Src) (cx : Ctx) (o : Option Callback) :
    accept r hdr s1 cx o = ctl o h r2 s1 cx := by
  unfold accept; rw [hg]; dsimp only; rw [hfrag, hctl]; rfl

theorem accept_hdr {r : Rd} {hdr : Header} (hext : r.ext = false) (s1 : Src) (cx : Ctx) (o : Option Callback) :
    (accept r hdr s1 cx o).1 = some hdr := by
  cases hc : (if r.skipCheck then none else checkHeader hdr r.state) with
  | some pe => unfold accept gate; rw [hc]
  | none =>
    by_cases hmax : r.maxFrame > 0 ∧ hdr.len > r.maxFrame
    · rw [accept_error (gate_tooLarge hc hmax.1 hmax.2)]
    · unfold accept; rw [gate_plain hc hmax hext]; dsimp only; split
      · exact ctl_hdr ..
      · rfl

theorem accept_none_src (r : Rd) (hdr : Header) (s1 : Src) (cx : Ctx) :
    (accept r hdr s1 cx none).2.2.2.1 = s1 ∨ ∃ r2 : Rd, (accept r hdr s1 cx none).2.2.2.1 = (r2.drainRaw s1 s1.fuel).2.2 := by
  unfold accept
  cases gate r hdr with
  | error x => exact Or.inl rfl
  | ok x =>
    dsimp only
    split
    · exact Or.inr ⟨x.2, rfl⟩
    · exact Or.inl rfl

end Ws.NF
