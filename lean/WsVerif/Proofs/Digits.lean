/-
  The decimal digit loop that `asciiToInt` (Model/Http) and `digitsVal` (Model/Negotiate) share but
  for the value at which they give up.
-/
import WsVerif.Model.Http
namespace Ws

def digitStep (bound : Nat) (acc : Option Nat) (c : Nat) : Option Nat :=
  match acc with
  | none => none
  | some n => if 48 ≤ c ∧ c ≤ 57 then (if n * 10 + (c - 48) > bound then none else some (n * 10 + (c - 48))) else none

theorem foldl_digitStep_none (bound : Nat) (l : List Nat) : l.foldl (digitStep bound) none = none := by
  induction l with
  | nil => rfl
  | cons c cs ih => exact ih

theorem foldl_digitStep {bound : Nat} (v : List Nat) (a n : Nat) (h : v.foldl (digitStep bound) (some a) = some n) :
    (∀ c ∈ v, 48 ≤ c ∧ c ≤ 57) ∧ v.foldl (fun a c => a * 10 + (c - 48)) a = n := by
  induction v generalizing a with
  | nil => simpa using h
  | cons c cs ih =>
    rw [List.foldl_cons, digitStep] at h
    split at h
    · split at h
      · rw [foldl_digitStep_none] at h; cases h
      · next hc _ => simpa [hc] using ih _ h
    · rw [foldl_digitStep_none] at h; cases h

theorem asciiToInt_eq (bs : Bytes) :
    asciiToInt bs = if bs.isEmpty then none else bs.foldl (digitStep 9223372036854775807) (some 0) := rfl

theorem digitsVal_eq (p : Bytes) : digitsVal p = p.foldl (digitStep 15) (some 0) := rfl

end Ws
