/- Lemmas for C07: the Hoehrmann table against Table 3-7. -/
import WsVerif.Model.Utf8
import WsVerif.Spec.Utf8
namespace Ws
open Ws.Spec

/-- The DFA's numbering of the nine positions: multiples of 12, a state being the offset of its row in
    the transition table `utf8d[256 ..]`, which has one column for each of the 12 byte classes. -/
def u8Enc : U8 → Nat
  | .acc => 0 | .rej => 12 | .c1 => 24 | .c2 => 36 | .e0 => 48 | .ed => 60 | .f0 => 72 | .c3 => 84 | .f4 => 96

def u8States : List U8 := [.acc, .rej, .c1, .c2, .c3, .e0, .ed, .f0, .f4]

theorem u8States_complete (s : U8) : s ∈ u8States := by cases s <;> simp [u8States]

theorem u8Enc_inj {a b : U8} (h : u8Enc a = u8Enc b) : a = b := by
  cases a <;> cases b <;> simp [u8Enc] at h <;> rfl

/-- The table against Table 3-7: `cls` are the byte classes `utf8d[b0 ..]`, walked once, and `tr` the
    transitions `utf8d[256 ..]`. (Indexing `utf8d` twice for each of the 9 × 256 pairs, as `utf8Step`
    does, costs the kernel ten times as much.) -/
def tableAgrees (tr : List Nat) : List Nat → Nat → Bool
  | [], _ => true
  | t :: cls, b =>
    (u8States.all fun s => tr[u8Enc s + t]? == some (u8Enc (u8Step s b))) && tableAgrees tr cls (b + 1)

theorem tableAgrees_spec (tr : List Nat) (s : U8) :
    ∀ (cls : List Nat) (b0 : Nat), tableAgrees tr cls b0 = true → ∀ (i : Nat) (hi : i < cls.length),
      tr[u8Enc s + cls[i]]? = some (u8Enc (u8Step s (b0 + i)))
  | t :: cls, b0, h, i, hi => by
    simp only [tableAgrees, Bool.and_eq_true, List.all_eq_true, beq_iff_eq] at h
    cases i with
    | zero => exact h.1 s (u8States_complete s)
    | succ i =>
      have := tableAgrees_spec tr s cls (b0 + 1) h.2 i (by simpa using hi)
      rwa [Nat.add_assoc, Nat.add_comm 1 i] at this

theorem utf8_table_tbl : tableAgrees (utf8d.drop 256) (utf8d.take 256) 0 = true := by decide +kernel

theorem utf8Step_ok (s : U8) {b : Nat} (hb : b < 256) :
    utf8Step (u8Enc s) b = some (u8Enc (u8Step s b)) := by
  have hl : 256 ≤ utf8d.length := by decide +kernel
  have h := tableAgrees_spec _ s _ 0 utf8_table_tbl b (by rw [List.length_take]; omega)
  rw [List.getElem?_drop, List.getElem_take, Nat.zero_add, ← Nat.add_assoc] at h
  simp only [utf8Step, List.getElem?_eq_getElem (Nat.lt_of_lt_of_le hb hl), h]

theorem u8Step_rej (b : Nat) : u8Step .rej b = .rej := rfl

theorem u8Run_rej (bs : Bytes) : u8Run .rej bs = .rej := by
  induction bs with
  | nil => rfl
  | cons b bs ih => simp only [u8Run, List.foldl_cons, u8Step_rej] at ih ⊢; exact ih

theorem u8Run_cons (s : U8) (b : Nat) (bs : Bytes) : u8Run s (b :: bs) = u8Run (u8Step s b) bs := rfl

theorem u8Run_append (s : U8) (a b : Bytes) : u8Run s (a ++ b) = u8Run (u8Run s a) b := by
  simp [u8Run, List.foldl_append]

theorem wfUtf8_ascii {bs : Bytes} (h : ∀ b ∈ bs, b ≤ 0x7F) : wfUtf8 bs = true := by
  unfold wfUtf8 u8Run
  induction bs with
  | nil => rfl
  | cons b bs ih =>
    rw [List.foldl_cons, u8Step, if_pos (h b List.mem_cons_self)]
    exact ih fun x hx => h x (List.mem_cons_of_mem _ hx)

end Ws
