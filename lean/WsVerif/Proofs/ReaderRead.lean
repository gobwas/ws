/-
  The bottom of the message reader: the transport measure, one read of the limited reader and of the
  frame stack against whatever the transport holds (`src_read_spec`, `rawRead_spec`, `frameRead_of_raw`), one Read inside
  a frame, draining a frame, a frame the transport does not hold whole, the caller's loop of Reads and
  the read-until-error loop `Rd.pull` (what ioutil.ReadAll, io.ReadFull and the control handler share).
-/
import WsVerif.Model.Helper
import WsVerif.Props.C02
import WsVerif.Proofs.FrameRead
namespace Ws.RdProof
open Ws Ws.Spec

/-- what is left to do on a transport: bytes still to hand out plus chunks (an empty chunk is a
    `0, nil` read and costs one call). Every successful read makes it smaller. -/
def mu (s : Src) : Nat := s.bytes.length + s.chunks.length

/-- the fuel the helpers give a read loop over `s` outlasts the loop: each round takes bytes or a chunk off `s` -/
theorem pullFuel_gt (s : Src) : mu s + 1 < pullFuel s := by unfold pullFuel Src.fuel mu; omega

/-- the last data never arrives together with a *failure* (together with io.EOF is allowed). -/
def Src.Tame (s : Src) : Prop := s.dataWithFin = true → s.fin = .eof

theorem Src.Tame.of_end {s s1 : Src} (ht : Src.Tame s) (hf : s1.fin = s.fin) (hd : s1.dataWithFin = s.dataWithFin) :
    Src.Tame s1 := fun h => hf.trans (ht (hd ▸ h))

/-- Everything the reader proofs need of one `Read(p)` of the transport, `len p = k`; the facts below are read off it,
    and `Src.read` is used through these only. -/
theorem src_read_spec (s : Src) (k : Nat) :
    ∃ got e s1, s.read k = (got, e, s1) ∧ got ++ s1.bytes = s.bytes ∧ got.length ≤ k
      ∧ s1.fin = s.fin ∧ s1.dataWithFin = s.dataWithFin
      ∧ (0 < k → (s.chunks ≠ [] → mu s1 < mu s)
          ∧ (e = none → mu s1 < mu s ∧ (got = [] → s1.chunks.length < s.chunks.length)))
      ∧ (∀ f, e = some f → s1.bytes = [] ∧ f = s.fin ∧ (Src.Tame s → f = .fail → got = [])) := by
  obtain ⟨chunks, fin, dwf⟩ := s
  cases chunks with
  | nil =>
    exact ⟨[], some fin, _, rfl, rfl, Nat.zero_le _, rfl, rfl, fun _ => ⟨fun h => absurd rfl h, nofun⟩,
      fun f hf => ⟨rfl, by cases hf; rfl, fun _ _ => rfl⟩⟩
  | cons c cs =>
    by_cases hc : c.length ≤ k
    · have hmu : mu ⟨cs, fin, dwf⟩ < mu ⟨c :: cs, fin, dwf⟩ := by
        simp only [mu, Src.bytes, List.flatten_cons, List.length_append, List.length_cons]; omega
      refine ⟨c, if cs.isEmpty && dwf then some fin else none, ⟨cs, fin, dwf⟩, by simp [Src.read, hc], by simp [Src.bytes],
        hc, rfl, rfl, fun _ => ⟨fun _ => hmu, fun _ => ⟨hmu, fun _ => by simp⟩⟩, ?_⟩
      intro f hf
      split at hf
      · next h =>
        simp only [Bool.and_eq_true, List.isEmpty_iff] at h
        cases hf
        exact ⟨by simp [Src.bytes, h.1], rfl, fun ht hfail => by have := ht h.2; rw [hfail] at this; cases this⟩
      · cases hf
    · refine ⟨c.take k, none, ⟨c.drop k :: cs, fin, dwf⟩, by simp [Src.read, hc], by simp [Src.bytes, ← List.append_assoc],
        by simp [List.length_take]; omega, rfl, rfl, fun hk => ?_, nofun⟩
      have hmu : mu ⟨c.drop k :: cs, fin, dwf⟩ < mu ⟨c :: cs, fin, dwf⟩ := by
        simp only [mu, Src.bytes, List.flatten_cons, List.length_append, List.length_cons, List.length_drop]; omega
      refine ⟨fun _ => hmu, fun _ => ⟨hmu, fun hg => ?_⟩⟩
      have : (c.take k).length = 0 := by rw [hg]; rfl
      rw [List.length_take] at this; omega

theorem src_read_fin (s : Src) (k : Nat) : (s.read k).2.2.fin = s.fin ∧ (s.read k).2.2.dataWithFin = s.dataWithFin := by
  obtain ⟨got, e, s1, hr, _, _, hfin, hdwf, _⟩ := src_read_spec s k
  rw [hr]; exact ⟨hfin, hdwf⟩

theorem src_read_len (s : Src) (k : Nat) : (s.read k).1.length ≤ k := by
  obtain ⟨got, e, s1, hr, _, hlen, _⟩ := src_read_spec s k
  rw [hr]; exact hlen

theorem src_read_mu (s : Src) (k : Nat) (hk : 0 < k) (hc : s.chunks ≠ []) :
    mu (s.read k).2.2 < mu s := by
  obtain ⟨got, e, s1, hr, _, _, _, _, hmu, _⟩ := src_read_spec s k
  rw [hr]; exact (hmu hk).1 hc

theorem src_read_err (s : Src) (k : Nat) (e : Fin) (h : (s.read k).2.1 = some e) :
    (s.read k).2.2.bytes = [] ∧ e = s.fin :=
  have ⟨hc, he⟩ := Src.read_err h
  ⟨by rw [Src.bytes, hc]; rfl, he⟩

theorem take_of_split {got tl wire rest : Bytes} (h : got ++ tl = wire ++ rest) (hl : got.length ≤ wire.length) :
    got = wire.take got.length ∧ tl = wire.drop got.length ++ rest := by
  have h1 : got = (wire ++ rest).take got.length := by rw [← h]; simp
  have h2 : tl = (wire ++ rest).drop got.length := by rw [← h]; simp
  rw [List.take_append_of_le_length hl] at h1
  rw [List.drop_append_of_le_length hl] at h2
  exact ⟨h1, h2⟩

theorem wf_append_right {a b : Bytes} (h : Bytes.WF (a ++ b)) : Bytes.WF b := (Bytes.wf_append.mp h).2
theorem wf_append_left {a b : Bytes} (h : Bytes.WF (a ++ b)) : Bytes.WF a := (Bytes.wf_append.mp h).1

/-- what the frame stack hands out for wire bytes `w` at the reader's current position -/
def plainOf (r : Rd) (w : Bytes) : Bytes := if r.masked then xorSpec w r.mask r.cpos else w

theorem plainOf_length (r : Rd) (w : Bytes) : (plainOf r w).length = w.length := by
  unfold plainOf xorSpec; split <;> simp

theorem plainOf_nil (r : Rd) : plainOf r [] = [] := List.length_eq_zero_iff.mp (plainOf_length r [])

theorem plainOf_wf (r : Rd) (hm : r.mask.WF) (w : Bytes) (hw : Bytes.WF w) : Bytes.WF (plainOf r w) := by
  unfold plainOf
  split
  · rw [← xorFrom_eq_spec]; exact xorFrom_wf hm _ hw
  · exact hw

/-- the frame stack stands before `wire` (the rest of a frame's payload), `rest` follows it — whether or
    not the reader has installed the frame as its current one (a control frame handed to OnIntermediate
    is not) -/
structure InFrame0 (r : Rd) (s : Src) (wire rest : Bytes) : Prop where
  noU : r.utf8on = false
  bytes : s.bytes = wire ++ rest
  n : r.rawN = wire.length
  wf : Bytes.WF s.bytes
  mwf : r.mask.WF
  tame : Src.Tame s

/-- the reader is inside a frame whose remaining wire payload is `wire`; `rest` follows it -/
structure InFrame (r : Rd) (s : Src) (wire rest : Bytes) : Prop where
  has : r.hasFrame = true
  noU : r.utf8on = false
  bytes : s.bytes = wire ++ rest
  n : r.rawN = wire.length
  wf : Bytes.WF s.bytes
  mwf : r.mask.WF
  tame : Src.Tame s

theorem plainOf_split (r : Rd) (wire : Bytes) (g : Nat) (hg : g ≤ wire.length) :
    plainOf r (wire.take g) ++ plainOf (adv r g) (wire.drop g) = plainOf r wire := by
  unfold plainOf adv
  cases hm : r.masked
  · simp
  · simp only [if_true]
    have := C02.xor_append (wire.take g) (wire.drop g) r.mask r.cpos
    rw [List.take_append_drop] at this
    rw [this, List.length_take, Nat.min_eq_left hg]

theorem InFrame.stack {r : Rd} {s : Src} {wire rest : Bytes} (h : InFrame r s wire rest) : InFrame0 r s wire rest :=
  ⟨h.noU, h.bytes, h.n, h.wf, h.mwf, h.tame⟩

theorem InFrame0.advance {r : Rd} {s s1 : Src} {wire rest : Bytes} (h : InFrame0 r s wire rest) (g : Nat)
    (hb : s1.bytes = wire.drop g ++ rest) (ht : Src.Tame s1) : InFrame0 (adv r g) s1 (wire.drop g) rest := by
  obtain ⟨hw, hr⟩ := Bytes.wf_append.mp (h.bytes ▸ h.wf)
  exact ⟨h.noU, hb, by simp [adv, h.n], hb ▸ Bytes.wf_append.mpr ⟨hw.drop g, hr⟩, h.mwf, ht⟩

theorem InFrame.advance {r : Rd} {s s1 : Src} {wire rest : Bytes} (h : InFrame r s wire rest) (g : Nat)
    (hb : s1.bytes = wire.drop g ++ rest) (ht : Src.Tame s1) : InFrame (adv r g) s1 (wire.drop g) rest :=
  have h0 := h.stack.advance g hb ht
  ⟨h.has, h0.noU, h0.bytes, h0.n, h0.wf, h0.mwf, h0.tame⟩

theorem rawRead_spec (r : Rd) (s : Src) (k : Nat) (hk : 0 < k) (hrn : r.rawN ≠ 0) :
    ∃ got e s1, r.rawRead s k = (got, e, { r with rawN := r.rawN - got.length }, s1)
      ∧ got ++ s1.bytes = s.bytes ∧ got.length ≤ r.rawN ∧ s1.fin = s.fin ∧ (Src.Tame s → Src.Tame s1)
      ∧ (s.bytes ≠ [] → mu s1 < mu s)
      ∧ (e = none → mu s1 < mu s ∧ (got = [] → s1.chunks.length < s.chunks.length))
      ∧ (∀ x, e = some x → s1.bytes = [] ∧
            ((x = .eof ∧ got.length = r.rawN) ∨ (x = .ueof ∧ got.length < r.rawN ∧ s.fin = .eof)
              ∨ (x = .fail ∧ s.fin = .fail ∧ (Src.Tame s → got = [])))) := by
  obtain ⟨got, e, s1, hr, hsplit, hlen, hfin, hdwf, hmu, herr⟩ := src_read_spec s (min k r.rawN)
  obtain ⟨hmu, hnone⟩ := hmu (by omega)
  have hraw := FR.rawRead_pos hrn s k
  rw [hr] at hraw
  refine ⟨got, _, s1, hraw, hsplit, by omega, hfin, fun ht => ht.of_end hfin hdwf,
    fun h => hmu (fun hc => h (by simp [Src.bytes, hc])), ?_⟩
  cases e with
  | none => exact ⟨fun _ => hnone rfl, fun x hx => by cases hx⟩
  | some f =>
    obtain ⟨h1, h2, h3⟩ := herr f rfl
    cases f with
    | fail => exact ⟨(fun he => by cases he), fun x hx => by cases hx; exact ⟨h1, Or.inr (Or.inr ⟨rfl, h2.symm, fun ht => h3 ht rfl⟩)⟩⟩
    | eof =>
      by_cases hl : r.rawN - got.length > 0
      · simp only [FR.limErr, hl, if_true]
        exact ⟨(fun he => by cases he), fun x hx => by cases hx; exact ⟨h1, Or.inr (Or.inl ⟨rfl, by omega, h2.symm⟩)⟩⟩
      · simp only [FR.limErr, hl, if_false]
        exact ⟨(fun he => by cases he), fun x hx => by cases hx; exact ⟨h1, Or.inl ⟨rfl, by omega⟩⟩⟩

theorem unmask_wf (r : Rd) (got : Bytes) (hw : Bytes.WF got) (hm : r.mask.WF) : FR.unmask r got = some (plainOf r got) := by
  unfold FR.unmask plainOf
  cases r.masked
  · rfl
  · simp [C02.cipher_eq_spec got hw r.mask hm r.cpos]

theorem frameRead_of_raw (r : Rd) (s s1 : Src) (k : Nat) (got : Bytes) (e : Option RdErr)
    (hraw : r.rawRead s k = (got, e, { r with rawN := r.rawN - got.length }, s1))
    (hu : r.utf8on = false) (hm : r.mask.WF) (hw : Bytes.WF got) :
    r.frameRead s k = some (plainOf r got, got.length, FR.rawErr e, adv r got.length, s1) := by
  rw [FR.frameRead_off r s k hu, hraw]
  simp only [unmask_wf r got hw hm, Option.map_some, plainOf_length]

theorem rawRead_whole (r : Rd) (s : Src) (wire rest : Bytes) (k : Nat)
    (hb : s.bytes = wire ++ rest) (hn : r.rawN = wire.length) (htame : Src.Tame s)
    (hk : 0 < k) (hpos : 0 < wire.length) :
    ∃ got e s1, r.rawRead s k = (got, e, { r with rawN := wire.length - got.length }, s1)
      ∧ got = wire.take got.length
      ∧ got.length ≤ wire.length ∧ s1.bytes = wire.drop got.length ++ rest ∧ mu s1 < mu s ∧ Src.Tame s1
      ∧ (got = [] → s1.chunks.length < s.chunks.length)
      ∧ (got.length < wire.length → e = none) ∧ (e = none ∨ e = some .eof) := by
  obtain ⟨got, e, s1, hraw, hsplit, hgl, _, ht1, hmu, hnone, herr⟩ := rawRead_spec r s k hk (by omega)
  rw [hn] at hraw hgl herr
  obtain ⟨hgot, htl⟩ := take_of_split (hb ▸ hsplit) hgl
  have hmu1 : mu s1 < mu s := hmu (by rw [hb]; intro h; simp [(List.append_eq_nil_iff.mp h).1] at hpos)
  cases e with
  | none => exact ⟨got, none, s1, hraw, hgot, hgl, htl, hmu1, ht1 htame, (hnone rfl).2, fun _ => rfl, Or.inl rfl⟩
  | some x =>
    -- an error means the transport is empty, so the frame was complete: the error is the clean end
    obtain ⟨h1, hc⟩ := herr x rfl
    have hnil : wire.drop got.length = [] := by rw [htl] at h1; exact (List.append_eq_nil_iff.mp h1).1
    have hl : wire.length ≤ got.length := by have := congrArg List.length hnil; simp at this; omega
    have hx : x = .eof := by
      rcases hc with ⟨rfl, _⟩ | ⟨_, h, _⟩ | ⟨_, _, h⟩
      · rfl
      · omega
      · rw [h htame, List.length_nil] at hl; omega
    subst hx
    exact ⟨got, _, s1, hraw, hgot, hgl, htl, hmu1, ht1 htame, fun hg => by rw [hg, List.length_nil] at hl; omega,
      fun hlt => by omega, Or.inr rfl⟩

theorem frameRead_inframe0 (r : Rd) (s : Src) (wire rest : Bytes) (k : Nat) (h : InFrame0 r s wire rest)
    (hk : 0 < k) (hn : 0 < wire.length) :
    ∃ g e s1, r.frameRead s k = some (plainOf r (wire.take g), g, e, adv r g, s1)
      ∧ g ≤ wire.length ∧ s1.bytes = wire.drop g ++ rest ∧ mu s1 < mu s ∧ Src.Tame s1
      ∧ (g < wire.length → e = none) ∧ (e = none ∨ e = some .eof) := by
  obtain ⟨got, e, s1, hraw, hgot, hgl, hb1, hmu, ht1, _, hlt, he⟩ := rawRead_whole r s wire rest k h.bytes h.n h.tame hk hn
  have hw : Bytes.WF got := hgot ▸ (wf_append_left (h.bytes ▸ h.wf)).take _
  refine ⟨got.length, FR.rawErr e, s1, ?_, hgl, hb1, hmu, ht1, fun hl => by rw [hlt hl]; rfl, ?_⟩
  · rw [← hgot]; exact frameRead_of_raw r s s1 k got e (h.n ▸ hraw) h.noU h.mwf hw
  · rcases he with rfl | rfl
    · exact Or.inl rfl
    · exact Or.inr rfl

theorem frameRead_done (r : Rd) (s : Src) (k : Nat) (h0 : r.rawN = 0) (hu : r.utf8on = false) (hm : r.mask.WF) :
    r.frameRead s k = some ([], 0, some .eof, r, s) := by
  rw [FR.frameRead_off r s k hu, FR.rawRead_zero h0, unmask_wf r [] Bytes.WF.nil hm]
  simp [plainOf_nil, FR.rawErr, adv_zero]

/-- One Reader.Read inside a frame whose remaining payload the transport holds, for any chunking and any buffer
    (validating layer out of the stack; `hv`: the message cannot end inside a character): the next `g` unmasked bytes
    of the frame; while bytes remain, no error; with the frame's last byte the message either continues (no error,
    frame slot cleared) or ends (io.EOF together with the data, reader reset). -/
theorem read_inframe (r : Rd) (s : Src) (cx : Ctx) (cb : Option Callback) (wire rest : Bytes) (k : Nat)
    (h : InFrame r s wire rest) (hk : 0 < k)
    (hv : r.checkUTF8 = false ∨ r.utf8.valid = true) :
    ∃ g s1, g ≤ wire.length ∧ s1.bytes = wire.drop g ++ rest ∧ Src.Tame s1 ∧ Bytes.WF s1.bytes
      ∧ (0 < wire.length → mu s1 < mu s) ∧ (wire.length = 0 → s1 = s)
      ∧ ((g < wire.length ∧
            r.read s cx k cb = some (plainOf r (wire.take g), g, none, adv r g, s1, cx))
         ∨ (g = wire.length ∧
            r.read s cx k cb = some (plainOf r (wire.take g), g, (afterFrame (adv r g)).1, (afterFrame (adv r g)).2, s1, cx))) := by
  have hbad := RdText.badEnd_adv hv
  by_cases hz : wire.length = 0
  · have hw : wire = [] := List.length_eq_zero_iff.mp hz
    subst hw
    have h0 : r.rawN = 0 := by rw [h.n]; rfl
    refine ⟨0, s, Nat.le_refl _, by simpa using h.bytes, h.tame, h.wf, by simp, fun _ => rfl, Or.inr ⟨rfl, ?_⟩⟩
    rw [RdText.read_of_frameRead cx cb h.has (frameRead_done r s k h0 h.noU h.mwf) (adv_zero r ▸ hbad 0),
      RdText.finish_end h0 (Or.inr rfl), adv_zero, List.take_nil, plainOf_nil]
  · have hpos : 0 < wire.length := Nat.pos_of_ne_zero hz
    obtain ⟨g, e, s1, hfr, hg, hb, hmu, htame, hlt, he⟩ := frameRead_inframe0 r s wire rest k h.stack hk hpos
    refine ⟨g, s1, hg, hb, htame, (h.advance g hb htame).wf, fun _ => hmu, fun h0 => absurd h0 hz, ?_⟩
    have hraw : (adv r g).rawN = wire.length - g := by simp [adv, h.n]
    rw [RdText.read_of_frameRead cx cb h.has hfr (hbad g)]
    by_cases hgl : g < wire.length
    · rw [hlt hgl, RdText.finish_more (by rw [hraw]; omega) (by simp)]
      exact Or.inl ⟨hgl, rfl⟩
    · rw [RdText.finish_end (by rw [hraw]; omega) he]
      exact Or.inr ⟨by omega, rfl⟩

theorem read_final (r : Rd) (s : Src) (cx : Ctx) (cb : Option Callback) (wire rest : Bytes) (k : Nat)
    (hin : InFrame r s wire rest) (hk : 0 < k) (hnf : r.fragmented = false)
    (hv : r.checkUTF8 = false ∨ r.utf8.valid = true) :
    ∃ g s1,
      (g < wire.length ∧ r.read s cx k cb = some (plainOf r (wire.take g), g, none, adv r g, s1, cx)
        ∧ InFrame (adv r g) s1 (wire.drop g) rest ∧ (adv r g).fragmented = false
        ∧ ((adv r g).checkUTF8 = false ∨ (adv r g).utf8.valid = true) ∧ mu s1 < mu s
        ∧ plainOf r (wire.take g) ++ plainOf (adv r g) (wire.drop g) = plainOf r wire
        ∧ g = (plainOf r (wire.take g)).length)
      ∨ (g = wire.length ∧ r.read s cx k cb = some (plainOf r wire, wire.length, some .eof, (adv r wire.length).reset, s1, cx)
        ∧ s1.bytes = rest ∧ Src.Tame s1) := by
  obtain ⟨g, s1, hg, hb1, ht1, _, hmu, _, hcase⟩ := read_inframe r s cx cb wire rest k hin hk hv
  refine ⟨g, s1, ?_⟩
  rcases hcase with ⟨hlt, hread⟩ | ⟨heq, hread⟩
  · exact Or.inl ⟨hlt, hread, hin.advance g hb1 ht1, hnf, hv, hmu (by omega), plainOf_split r wire g hg,
      by rw [plainOf_length, List.length_take, Nat.min_eq_left hg]⟩
  · subst heq
    have haf : afterFrame (adv r wire.length) = (some .eof, (adv r wire.length).reset) := by
      simp [afterFrame, show (adv r wire.length).fragmented = false from hnf]
    rw [haf, List.take_length] at hread
    exact Or.inr ⟨rfl, hread, by simpa using hb1, ht1⟩

theorem read_enter {r r5 : Rd} {s s1 : Src} {cx cx1 : Ctx} {cb : Option Callback} (k : Nat) {h : Option Header}
    (hh : r.hasFrame = false) (hf : r.fragmented = true)
    (hn : r.nextFrame s cx cb = (h, none, r5, s1, cx1)) (h5 : r5.hasFrame = true) :
    r.read s cx k cb = r5.read s1 cx1 k cb := by
  rw [RdText.read_next_cb r s cx k cb hh hf, hn, RdText.read_has_cb r5 s1 cx1 k cb h5]; simp [h5]

theorem read_skip {r r3 : Rd} {s s3 : Src} {cx cx1 : Ctx} {cb : Option Callback} (k : Nat) {h : Option Header}
    (hh : r.hasFrame = false) (hf : r.fragmented = true)
    (hn : r.nextFrame s cx cb = (h, none, r3, s3, cx1)) (h3 : r3.hasFrame = false) :
    r.read s cx k cb = some ([], 0, none, r3, s3, cx1) := by
  rw [RdText.read_next_cb r s cx k cb hh hf, hn]; simp [h3]

theorem read_refused {r r1 : Rd} {s s1 : Src} {cx cx1 : Ctx} {cb : Option Callback} (k : Nat) {h : Option Header} {e : RErr}
    (hh : r.hasFrame = false) (hf : r.fragmented = true)
    (hn : r.nextFrame s cx cb = (h, some e, r1, s1, cx1)) :
    r.read s cx k cb = some ([], 0, some e, r1, s1, cx1) := by
  rw [RdText.read_next_cb r s cx k cb hh hf, hn]

/-- `hch` keeps the drain off the model's stop for a transport that says `0, nil` for ever -/
theorem drainRaw_more {r r' : Rd} {s s' : Src} {got : Bytes} (fuel : Nat) (h : r.rawRead s 32768 = (got, none, r', s'))
    (hch : got = [] → s'.chunks.length < s.chunks.length) : r.drainRaw s (fuel + 1) = r'.drainRaw s' fuel := by
  have hguard : ¬ (got.isEmpty = true ∧ r'.rawN = r.rawN ∧ s'.chunks.length = s.chunks.length) :=
    fun ⟨h1, _, h3⟩ => by have := hch (List.isEmpty_iff.mp h1); omega
  rw [Rd.drainRaw, h]
  simp only [hguard, if_false]

/-- Draining a frame (`io.Copy(ioutil.Discard, &r.raw)`): when the transport holds the whole
    payload, exactly the payload is consumed, whatever the chunking, and no error is reported. -/
theorem drainRaw_ok (fuel : Nat) (r : Rd) (s : Src) (wire rest : Bytes)
    (hb : s.bytes = wire ++ rest) (hn : r.rawN = wire.length) (htame : Src.Tame s) (hf : mu s < fuel) :
    ∃ s', r.drainRaw s fuel = (none, { r with rawN := 0 }, s') ∧ s'.bytes = rest ∧ Src.Tame s'
      ∧ mu s' ≤ mu s ∧ (0 < wire.length → mu s' < mu s) := by
  induction fuel generalizing r s wire with
  | zero => omega
  | succ fuel ih =>
    by_cases hz : wire.length = 0
    · have hw : wire = [] := List.length_eq_zero_iff.mp hz
      subst hw
      have h0 : r.rawN = 0 := by rw [hn]; rfl
      refine ⟨s, ?_, by simpa using hb, htame, Nat.le_refl _, by simp⟩
      -- nothing to drain, and `{ r with rawN := r.rawN }` is `r`
      rw [Rd.drainRaw, FR.rawRead_zero h0, ← h0]
    · have hpos : 0 < wire.length := Nat.pos_of_ne_zero hz
      obtain ⟨got, e, s1, hrr, _, hgl, hb1, hmu, htame1, hch, hlt, he⟩ :=
        rawRead_whole r s wire rest 32768 hb hn htame (by omega) hpos
      rcases he with rfl | rfl
      · obtain ⟨s', h1, h2, h3, h4, _⟩ := ih { r with rawN := wire.length - got.length } s1 (wire.drop got.length) hb1
          (by simp) htame1 (by omega)
        exact ⟨s', by rw [drainRaw_more fuel hrr hch, h1], h2, h3, by omega, fun _ => by omega⟩
      · -- io.EOF comes with the last byte of the frame
        have hge : got.length = wire.length := Nat.le_antisymm hgl (Nat.not_lt.mp fun h => nomatch hlt h)
        refine ⟨s1, ?_, by rw [hb1, hge]; simp, htame1, by omega, fun _ => hmu⟩
        rw [Rd.drainRaw, hrr, hge, Nat.sub_self]

theorem drainRaw_only_rawN (r : Rd) (s : Src) (n : Nat) :
    (r.drainRaw s n).2.1 = { r with rawN := (r.drainRaw s n).2.1.rawN } := by
  induction n generalizing r s with
  | zero => rfl
  | succ n ih =>
    unfold Rd.drainRaw
    have h0 := FR.rawRead_rd r s 32768
    rcases hr : r.rawRead s 32768 with ⟨got, e, r', s'⟩
    rw [hr] at h0
    simp only at h0 ⊢
    subst h0
    cases e with
    | some f => cases f <;> rfl
    | none =>
      simp only
      split
      · rfl
      · rw [ih]

/-- io.Copy takes the limited reader's io.EOF for the end of the copy -/
theorem drainRaw_ne_eof (r : Rd) (s : Src) (n : Nat) : (r.drainRaw s n).1 ≠ some .eof := by
  induction n generalizing r s with
  | zero => simp [Rd.drainRaw]
  | succ n ih =>
    unfold Rd.drainRaw
    rcases r.rawRead s 32768 with ⟨got, e, r', s'⟩
    simp only
    cases e with
    | some f => cases f <;> simp
    | none =>
      simp only
      split
      · simp
      · exact ih r' s'

theorem rawRead_fin (r : Rd) (s : Src) (k : Nat) : (r.rawRead s k).2.2.2.fin = s.fin := by
  by_cases h0 : r.rawN = 0
  · rw [FR.rawRead_zero h0]
  · rw [FR.rawRead_pos h0]; exact (src_read_fin s _).1

theorem frameRead_fin {r r' : Rd} {s s' : Src} {k n : Nat} {b : Bytes} {e : Option RErr}
    (h : r.frameRead s k = some (b, n, e, r', s')) : s'.fin = s.fin := by
  rw [show s' = (r.rawRead s k).2.2.2 from FR.frameRead_src h]; exact rawRead_fin r s k

theorem drainRaw_fin (fuel : Nat) (r : Rd) (s : Src) : (r.drainRaw s fuel).2.2.fin = s.fin := by
  induction fuel generalizing r s with
  | zero => rfl
  | succ n ih =>
    have hf := rawRead_fin r s 32768
    unfold Rd.drainRaw
    rcases hr : r.rawRead s 32768 with ⟨got, e, r', s'⟩
    rw [hr] at hf
    dsimp only at hf ⊢
    rcases e with _ | (_ | _ | _)
    · dsimp only
      split
      · exact hf
      · rw [ih]; exact hf
    all_goals exact hf

/-- the drain as NextFrame and Discard run it, on `s.fuel` -/
theorem drain_frame (r : Rd) (s : Src) {wire rest : Bytes} (hb : s.bytes = wire ++ rest) (hn : r.rawN = wire.length)
    (htame : Src.Tame s) :
    ∃ s', r.drainRaw s s.fuel = (none, { r with rawN := 0 }, s') ∧ s'.bytes = rest ∧ Src.Tame s' ∧ s'.fin = s.fin
      ∧ mu s' ≤ mu s := by
  obtain ⟨s', hd, hb', ht', hmu, _⟩ := drainRaw_ok s.fuel r s wire rest hb hn htame (by unfold Src.fuel mu; omega)
  have hf := drainRaw_fin s.fuel r s
  rw [hd] at hf
  exact ⟨s', hd, hb', ht', hf, hmu⟩

theorem read_mid {r r2 : Rd} {s s2 : Src} (cx : Ctx) (cb : Option Callback) {k n : Nat} {b : Bytes} {e : Option RErr}
    (hhas : r.hasFrame = true) (hfr : r.frameRead s k = some (b, n, e, r2, s2)) (hrn : r2.rawN ≠ 0) (he : e ≠ some .eof) :
    r.read s cx k cb = some (b, n, e, r2, s2, cx) := by
  rw [RdText.read_of_frameRead cx cb hhas hfr (by simp [RdText.badEnd, hrn]), RdText.finish_more hrn he]

theorem rawRead_cut (r : Rd) (s : Src) (k : Nat) (hk : 0 < k) (hshort : s.bytes.length < r.rawN) :
    ∃ got e s1, r.rawRead s k = (got, e, { r with rawN := r.rawN - got.length }, s1)
      ∧ got ++ s1.bytes = s.bytes ∧ s1.fin = s.fin ∧ s1.bytes.length < r.rawN - got.length
      ∧ ((e = none ∧ mu s1 < mu s ∧ (got = [] → s1.chunks.length < s.chunks.length))
         ∨ (e = some .ueof ∧ s.fin = .eof) ∨ (e = some .fail ∧ s.fin = .fail)) := by
  obtain ⟨got, e, s1, hraw, hsplit, hgl, hf1, _, _, hnone, herr⟩ := rawRead_spec r s k hk (by omega)
  have hlen : s1.bytes.length = s.bytes.length - got.length := by rw [← hsplit]; simp
  have hgs : got.length ≤ s.bytes.length := by rw [← hsplit]; simp
  refine ⟨got, e, s1, hraw, hsplit, hf1, by omega, ?_⟩
  cases e with
  | none => exact Or.inl ⟨rfl, hnone rfl⟩
  | some x =>
    rcases (herr x rfl).2 with ⟨_, h⟩ | ⟨rfl, _, h⟩ | ⟨rfl, h, _⟩
    · omega
    · exact Or.inr (Or.inl ⟨rfl, h⟩)
    · exact Or.inr (Or.inr ⟨rfl, h⟩)

/-- the reader is inside a frame of which the transport holds fewer bytes than are outstanding -/
structure CutFrame (r : Rd) (s : Src) : Prop where
  has : r.hasFrame = true
  noU : r.utf8on = false
  short : s.bytes.length < r.rawN
  wf : Bytes.WF s.bytes
  mwf : r.mask.WF

theorem read_cut (r : Rd) (s : Src) (cx : Ctx) (cb : Option Callback) (k : Nat) (h : CutFrame r s) (hk : 0 < k) :
    ∃ got e s1, r.read s cx k cb = some (plainOf r got, got.length, e, adv r got.length, s1, cx)
      ∧ got ++ s1.bytes = s.bytes ∧ s1.fin = s.fin
      ∧ ((e = none ∧ mu s1 < mu s ∧ CutFrame (adv r got.length) s1)
         ∨ (e = some .ueof ∧ s.fin = .eof) ∨ (e = some .fail ∧ s.fin = .fail)) := by
  obtain ⟨got, e, s1, hraw, hsplit, hf1, hshort1, hcase⟩ := rawRead_cut r s k hk h.short
  obtain ⟨hwg, hw1⟩ := Bytes.wf_append.mp (hsplit ▸ h.wf)
  have hfr := frameRead_of_raw r s s1 k got e hraw h.noU h.mwf hwg
  refine ⟨got, FR.rawErr e, s1, ?_, hsplit, hf1, ?_⟩
  · refine read_mid cx cb h.has hfr (by simp only [adv]; omega) ?_
    rcases hcase with ⟨rfl, _⟩ | ⟨rfl, _⟩ | ⟨rfl, _⟩ <;> simp [FR.rawErr]
  · rcases hcase with ⟨rfl, hmu, _⟩ | ⟨rfl, hf⟩ | ⟨rfl, hf⟩
    · exact Or.inl ⟨rfl, hmu, ⟨h.has, h.noU, hshort1, hw1, h.mwf⟩⟩
    · exact Or.inr (Or.inl ⟨rfl, hf⟩)
    · exact Or.inr (Or.inr ⟨rfl, hf⟩)

theorem drainRaw_cut (fuel : Nat) (r : Rd) (s : Src) (hshort : s.bytes.length < r.rawN) (hf : mu s < fuel) :
    ((r.drainRaw s fuel).1 = some .ueof ∧ s.fin = .eof) ∨ ((r.drainRaw s fuel).1 = some .fail ∧ s.fin = .fail) := by
  induction fuel generalizing r s with
  | zero => omega
  | succ fuel ih =>
    obtain ⟨got, e, s1, hraw, _, hf1, hshort1, hcase⟩ := rawRead_cut r s 32768 (by decide) hshort
    rcases hcase with ⟨rfl, hmu, hch⟩ | ⟨rfl, hfin⟩ | ⟨rfl, hfin⟩
    · rw [drainRaw_more fuel hraw hch, ← hf1]
      exact ih { r with rawN := r.rawN - got.length } s1 hshort1 (by omega)
    · exact Or.inl ⟨by rw [Rd.drainRaw, hraw], hfin⟩
    · exact Or.inr ⟨by rw [Rd.drainRaw, hraw], hfin⟩

/-- the caller's loop: Read with buffers of sizes `ks` until the list is used up or Read reports
    an error (io.EOF = end of message); returns everything Read handed out and the last error -/
def reads : Rd → Src → Ctx → List Nat → Option (Bytes × Option RErr × Rd × Src × Ctx)
  | r, s, cx, [] => some ([], none, r, s, cx)
  | r, s, cx, k :: ks =>
    match r.read s cx k none with
    | none => none
    | some (bytes, n, e, r', s', cx') =>
      match e with
      | some e => some (bytes.take n, some e, r', s', cx')
      | none =>
        match reads r' s' cx' ks with
        | none => none
        | some (o, e2, r2, s2, cx2) => some (bytes.take n ++ o, e2, r2, s2, cx2)

/-- Reads that ended without error continue from where they stopped -/
theorem reads_append (r : Rd) (s : Src) (cx : Ctx) (ks1 ks2 : List Nat) (o1 : Bytes) (r1 : Rd) (s1 : Src) (cx1 : Ctx)
    (h : reads r s cx ks1 = some (o1, none, r1, s1, cx1)) :
    reads r s cx (ks1 ++ ks2) = (reads r1 s1 cx1 ks2).map fun x => (o1 ++ x.1, x.2) := by
  induction ks1 generalizing r s cx o1 with
  | nil =>
    cases h
    rw [List.nil_append]
    cases reads r1 s1 cx1 ks2 <;> rfl
  | cons k ks ih =>
    rw [List.cons_append, reads]
    rw [reads] at h
    cases hrd : r.read s cx k none with
    | none => rw [hrd] at h; cases h
    | some res =>
      obtain ⟨bytes, n, e, r', s', cx'⟩ := res
      rw [hrd] at h
      cases e with
      | some e => cases h
      | none =>
        dsimp only at h ⊢
        cases hrs : reads r' s' cx' ks with
        | none => rw [hrs] at h; cases h
        | some res2 =>
          obtain ⟨o, e2, r2, s2, cx2⟩ := res2
          rw [hrs] at h
          cases h
          rw [ih r' s' cx' o hrs]
          cases reads r1 s1 cx1 ks2 with
          | none => rfl
          | some x => simp [List.append_assoc]

/-- Any sequence of Reads of a cut frame hands out a prefix of what the transport held and can end only in
    io.ErrUnexpectedEOF or the transport's failure; by `mu s' + ks.length ≤ mu s` one of them is reported after at
    most bytes + chunks + 1 Reads. -/
theorem reads_cut (ks : List Nat) (hpos : ∀ k ∈ ks, 0 < k) (r : Rd) (s : Src) (cx : Ctx) (h : CutFrame r s) :
    ∃ raw out e r' s', reads r s cx ks = some (out, e, r', s', cx) ∧ out = plainOf r raw ∧ raw ++ s'.bytes = s.bytes
      ∧ ((e = none ∧ mu s' + ks.length ≤ mu s) ∨ (e = some .ueof ∧ s.fin = .eof) ∨ (e = some .fail ∧ s.fin = .fail)) := by
  induction ks generalizing r s with
  | nil => exact ⟨[], [], none, r, s, rfl, (plainOf_nil r).symm, rfl, Or.inl ⟨rfl, Nat.le_refl _⟩⟩
  | cons k ks ih =>
    obtain ⟨got, e, s1, hrd, hsplit, hfin1, hcase⟩ := read_cut r s cx none k h (hpos k (by simp))
    simp only [reads, hrd, List.take_of_length_le (Nat.le_of_eq (plainOf_length r got))]
    rcases hcase with ⟨he, hmu, hcut⟩ | ⟨he, hf⟩ | ⟨he, hf⟩
    · subst he
      obtain ⟨raw2, o2, e2, r2, s2, hrd2, ho2, hsp2, hc2⟩ := ih (fun k' hk' => hpos k' (by simp [hk'])) (adv r got.length) s1 hcut
      simp only [hrd2]
      refine ⟨got ++ raw2, plainOf r got ++ o2, e2, r2, s2, rfl, ?_, ?_, ?_⟩
      · rw [ho2]
        have := plainOf_split r (got ++ raw2) got.length (by simp)
        simpa using this
      · rw [List.append_assoc, hsp2, hsplit]
      · rcases hc2 with ⟨h1, h2⟩ | ⟨h1, h2⟩ | ⟨h1, h2⟩
        · exact Or.inl ⟨h1, by simp only [List.length_cons]; omega⟩
        · exact Or.inr (Or.inl ⟨h1, by rw [← hfin1]; exact h2⟩)
        · exact Or.inr (Or.inr ⟨h1, by rw [← hfin1]; exact h2⟩)
    · subst he
      exact ⟨got, plainOf r got, some .ueof, adv r got.length, s1, rfl, rfl, hsplit, Or.inr (Or.inl ⟨rfl, hf⟩)⟩
    · subst he
      exact ⟨got, plainOf r got, some .fail, adv r got.length, s1, rfl, rfl, hsplit, Or.inr (Or.inr ⟨rfl, hf⟩)⟩

end Ws.RdProof

namespace Ws.RdBin
open Ws

/-- the accumulator of the ReadAll loop is only prepended to -/
theorem pull_acc (k : Nat) (cb : Option Callback) (fuel : Nat) : ∀ (r : Rd) (s : Src) (cx : Ctx) (acc : List Bytes),
    Rd.pull true k cb fuel r s cx acc =
      (acc.reverse ++ (Rd.pull true k cb fuel r s cx []).1, (Rd.pull true k cb fuel r s cx []).2.1,
       (Rd.pull true k cb fuel r s cx []).2.2.1, (Rd.pull true k cb fuel r s cx []).2.2.2.1, (Rd.pull true k cb fuel r s cx []).2.2.2.2) := by
  induction fuel with
  | zero => intro r s cx acc; simp [Rd.pull]
  | succ n ih =>
    intro r s cx acc
    rw [Rd.pull, Rd.pull]
    simp only [if_true]
    rcases r.read s cx k cb with _ | ⟨b, m, e, r', s', cx'⟩
    · simp
    · simp only
      cases e with
      | some e => by_cases hm : m = 0 <;> simp [hm]
      | none =>
        by_cases hm : m = 0
        · simp only [hm, if_true]
          rw [ih r' s' cx' acc]
        · simp only [hm, if_false]
          rw [ih r' s' cx' (_ :: acc), ih r' s' cx' [_]]
          simp

/-- what ioutil.ReadAll keeps of a Read: the bytes, unless there are none -/
def keep (b : Bytes) : List Bytes := if b.length = 0 then [] else [b]

theorem keep_flatten (b : Bytes) : (keep b).flatten = b := by
  unfold keep
  split
  · next h => rw [List.length_eq_zero_iff.mp h]; rfl
  · simp

theorem pull_round {k : Nat} {o : Option Callback} (fuel : Nat) {r r' : Rd} {s s' : Src} {cx cx' : Ctx} {b : Bytes} {n : Nat}
    {e : Option RErr} (h : r.read s cx k o = some (b, n, e, r', s', cx')) (hn : n = b.length) :
    Rd.pull true k o (fuel + 1) r s cx [] =
      match e with
      | some e => (keep b, e, r', s', cx')
      | none => (keep b ++ (Rd.pull true k o fuel r' s' cx' []).1, (Rd.pull true k o fuel r' s' cx' []).2) := by
  subst hn
  rw [Rd.pull]
  simp only [if_true, h, Nat.sub_self, List.replicate_zero, List.append_nil, List.take_length]
  unfold keep
  by_cases hz : b.length = 0
  · cases e <;> simp [hz]
  · cases e with
    | some e => simp [hz]
    | none => simp only [hz, if_false]; rw [pull_acc]; rfl

theorem pull_stop {k : Nat} {o : Option Callback} (fuel : Nat) {r r' : Rd} {s s' : Src} {cx cx' : Ctx} {b : Bytes} {n : Nat} {e : RErr}
    (h : r.read s cx k o = some (b, n, some e, r', s', cx')) : (Rd.pull true k o (fuel + 1) r s cx []).2.1 = e := by
  rw [Rd.pull]
  simp [h]

/-- The read-until-error loop under an invariant of Read: while `Inv r s cx rem` holds (`rem`: what is still to come),
    one Read hands out a prefix of `rem`, counted right, and either goes on under `Inv` with a smaller weight `w` or ends
    with io.EOF in a state with `Post`. -/
theorem pull_inv {k : Nat} {cb : Option Callback} (Inv : Rd → Src → Ctx → Bytes → Prop) (Post : Rd → Src → Ctx → Prop)
    (w : Rd → Src → Nat)
    (hstep : ∀ r s cx rem, Inv r s cx rem →
      ∃ b e r' s' cx', r.read s cx k cb = some (b, b.length, e, r', s', cx') ∧
        ((e = none ∧ ∃ rem', rem = b ++ rem' ∧ Inv r' s' cx' rem' ∧ w r' s' < w r s)
         ∨ (e = some .eof ∧ rem = b ∧ Post r' s' cx'))) (fuel : Nat) :
    ∀ (r : Rd) (s : Src) (cx : Ctx) (rem : Bytes), Inv r s cx rem → w r s < fuel →
      ∃ chunks r' s' cx', Rd.pull true k cb fuel r s cx [] = (chunks, .eof, r', s', cx') ∧ chunks.flatten = rem ∧ Post r' s' cx' := by
  induction fuel with
  | zero => intro r s cx rem _ h; omega
  | succ n ih =>
    intro r s cx rem hinv hw
    obtain ⟨b, e, r1, s1, cx1, hread, ⟨rfl, rem', rfl, hinv', hlt⟩ | ⟨rfl, rfl, hpost⟩⟩ := hstep r s cx rem hinv
    · obtain ⟨chunks, r', s', cx', hp', hfl, hpost⟩ := ih r1 s1 cx1 rem' hinv' (by omega)
      exact ⟨keep b ++ chunks, r', s', cx', by rw [pull_round n hread rfl, hp'], by rw [List.flatten_append, keep_flatten, hfl], hpost⟩
    · exact ⟨keep _, r1, s1, cx1, pull_round n hread rfl, keep_flatten _, hpost⟩

/-- what `wsutil.ControlFrameHandler` reads of its source before it acts: the payload to its end when the frame
    announces one, nothing otherwise -/
def ctlPull (viaReader : Bool) (onInter : Option Callback) (h : Header) (r : Rd) (s : Src) (cx : Ctx) :
    List Bytes × RErr × Rd × Src × Ctx :=
  if h.len ≠ 0 ∧ (h.op = opPing ∨ h.op = opPong ∨ h.op = opClose) then Rd.pull viaReader 32768 onInter (pullFuel s) r s cx []
  else ([], .eof, r, s, cx)

/-- the source as ControlHandler sees it -/
def ctlSrc (chunks : List Bytes) (endE : RErr) : CtlSrc :=
  { chunks, fin := if endE = .fail then .fail else .eof, ueofEnd := endE = .ueof }

theorem controlFrameHandler_eq (client : Bool) (errText : ProtoErr → Bytes) (viaReader : Bool) (onInter : Option Callback)
    (h : Header) (r : Rd) (s : Src) (cx : Ctx) :
    controlFrameHandler client errText viaReader onInter h r s cx =
      match ctlPull viaReader onInter h r s cx with
      | (chunks, endE, r', s', cx') =>
        match rdErrOf endE with
        | none => ⟨some endE, r', s', cx'⟩
        | some _ =>
          match handleControl client h (ctlSrc chunks endE) false cx'.env errText with
          | none => ⟨some .fault, r', s', cx'⟩
          | some (er, env') =>
            ⟨er.map cerrToR, r', s', { cx' with env := env', events := cx'.events ++ [(h.op, chunks.flatten)] }⟩ := by
  unfold controlFrameHandler ctlPull
  by_cases hnp : h.len ≠ 0 ∧ (h.op = opPing ∨ h.op = opPong ∨ h.op = opClose)
  · rw [if_neg (not_not_intro hnp), if_pos hnp]; rfl
  · rw [if_pos hnp, if_neg hnp]; rfl

theorem controlFrameHandler_clean {client : Bool} {errText : ProtoErr → Bytes} {viaReader : Bool} {onInter : Option Callback}
    {h : Header} {r r' : Rd} {s s' : Src} {cx cx' : Ctx} {chunks : List Bytes}
    (hP : ctlPull viaReader onInter h r s cx = (chunks, .eof, r', s', cx')) :
    controlFrameHandler client errText viaReader onInter h r s cx =
      match handleControl client h { chunks := chunks } false cx'.env errText with
      | none => ⟨some .fault, r', s', cx'⟩
      | some (er, env') =>
        ⟨er.map cerrToR, r', s', { cx' with env := env', events := cx'.events ++ [(h.op, chunks.flatten)] }⟩ := by
  rw [controlFrameHandler_eq, hP]
  rfl

end Ws.RdBin
