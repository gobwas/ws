/-
  One Read of the frame reader stack as an equation in its three layers (limited reader, cipher layer, validating
  layer: `frameRead_stages`), and Reader.Read above it: fetching the next frame if there is none, then `tail`, one
  read of the stack followed by the end-of-frame decisions (`tail_eq`: `badEnd`, else `finish`). These are the
  only proofs that unfold `Rd.rawRead`, `Rd.frameRead` and `Rd.read`.
-/
import WsVerif.Model.Reader
namespace Ws.RdProof
open Ws

/-- the reader after taking `g` more wire bytes of the current frame -/
def adv (r : Rd) (g : Nat) : Rd :=
  { r with rawN := r.rawN - g, cpos := if r.masked then r.cpos + g else r.cpos }

theorem adv_zero (r : Rd) : adv r 0 = r := by cases r; simp [adv]
theorem adv_adv (r : Rd) (a b : Nat) : adv (adv r a) b = adv r (a + b) := by
  cases r; simp only [adv]; split <;> simp [Nat.sub_sub, Nat.add_assoc]

/-- what `Read` leaves behind when the current frame ends -/
def afterFrame (r : Rd) : Option RErr × Rd :=
  if r.fragmented then (none, r.resetFragment) else (some .eof, r.reset)

end Ws.RdProof

namespace Ws.FR
open Ws Ws.RdProof

/-- what the limited reader makes of the transport's report with `left` bytes of the frame outstanding: an end
    of the transport inside the frame is io.ErrUnexpectedEOF -/
def limErr (e : Option Fin) (left : Nat) : Option RdErr :=
  match e with
  | none => none
  | some .fail => some .fail
  | some .eof => if left > 0 then some .ueof else some .eof

theorem limErr_eof {e : Option Fin} {left : Nat} (h : limErr e left = some .eof) : left = 0 := by
  unfold limErr at h
  split at h
  · cases h
  · cases h
  · split at h
    · cases h
    · omega

theorem rawRead_zero {r : Rd} (h : r.rawN = 0) (s : Src) (k : Nat) : r.rawRead s k = ([], some .eof, r, s) := by
  unfold Rd.rawRead; rw [if_pos h]

theorem rawRead_pos {r : Rd} (h : r.rawN ≠ 0) (s : Src) (k : Nat) :
    r.rawRead s k = ((s.read (min k r.rawN)).1, limErr (s.read (min k r.rawN)).2.1 (r.rawN - (s.read (min k r.rawN)).1.length),
      { r with rawN := r.rawN - (s.read (min k r.rawN)).1.length }, (s.read (min k r.rawN)).2.2) := by
  unfold Rd.rawRead; rw [if_neg h]; rfl

def rawErr (e : Option RdErr) : Option RErr :=
  e.map fun f => match f with | .eof => RErr.eof | .ueof => RErr.ueof | .fail => RErr.fail

def unmask (r : Rd) (got : Bytes) : Option Bytes := if r.masked then cipher got r.mask r.cpos else some got

def validate (r2 : Rd) (plain : Bytes) (e : Option RErr) (s1 : Src) : Option (Bytes × Nat × Option RErr × Rd × Src) :=
  if r2.utf8on then
    match r2.utf8.feed plain with
    | none => none
    | some (n, bad, u') => some (plain, n, if bad then some .utf8 else e, { r2 with utf8 := u' }, s1)
  else some (plain, plain.length, e, r2, s1)

theorem rawRead_rd (r : Rd) (s : Src) (k : Nat) :
    (r.rawRead s k).2.2.1 = { r with rawN := r.rawN - (r.rawRead s k).1.length } := by
  by_cases h : r.rawN = 0
  · rw [rawRead_zero h]; rfl
  · rw [rawRead_pos h]

theorem frameRead_stages (r : Rd) (s : Src) (k : Nat) :
    r.frameRead s k = match unmask r (r.rawRead s k).1 with
      | none => none
      | some plain => validate (adv r (r.rawRead s k).1.length) plain (rawErr (r.rawRead s k).2.1) (r.rawRead s k).2.2.2 := by
  unfold Rd.frameRead
  have h := rawRead_rd r s k
  generalize r.rawRead s k = x at h ⊢
  obtain ⟨got, e, r1, s1⟩ := x
  simp only at h
  subst h
  have hadv : (if r.masked = true then ({ r with rawN := r.rawN - got.length, cpos := r.cpos + got.length } : Rd)
      else { r with rawN := r.rawN - got.length }) = adv r got.length := by
    unfold adv; split <;> rfl
  dsimp only [unmask]
  rw [hadv]
  cases (if r.masked = true then cipher got r.mask r.cpos else some got) with
  | none => rfl
  | some plain =>
    dsimp only [validate]
    split
    · cases (adv r got.length).utf8.feed plain with
      | none => rfl
      | some x => obtain ⟨n, bad, u'⟩ := x; cases bad <;> rfl
    · rfl

theorem frameRead_off (r : Rd) (s : Src) (k : Nat) (hoff : r.utf8on = false) :
    r.frameRead s k = (unmask r (r.rawRead s k).1).map fun plain =>
      (plain, plain.length, rawErr (r.rawRead s k).2.1, adv r (r.rawRead s k).1.length, (r.rawRead s k).2.2.2) := by
  rw [frameRead_stages]
  cases unmask r (r.rawRead s k).1 with
  | none => rfl
  | some plain =>
    have : (adv r (r.rawRead s k).1.length).utf8on = false := hoff
    simp [validate, this]

theorem frameRead_src {r : Rd} {s : Src} {k : Nat} {x : Bytes × Nat × Option RErr × Rd × Src}
    (h : r.frameRead s k = some x) : x.2.2.2.2 = (r.rawRead s k).2.2.2 := by
  rw [frameRead_stages] at h
  cases hu : unmask r (r.rawRead s k).1 with
  | none => rw [hu] at h; cases h
  | some plain =>
    rw [hu] at h
    unfold validate at h
    dsimp only at h
    split at h
    · split at h
      · cases h
      · cases h; rfl
    · cases h; rfl

end Ws.FR

namespace Ws.RdText
open Ws Ws.RdProof

/-- the second half of Reader.Read: one read of the frame stack and the end-of-frame decisions -/
def tail (r1 : Rd) (s1 : Src) (cx1 : Ctx) (k : Nat) : Option (Bytes × Nat × Option RErr × Rd × Src × Ctx) :=
  match r1.frameRead s1 k with
  | none => none
  | some (bytes, n, e, r2, s2) =>
    match e with
    | some .eof | none =>
      if e.isNone && r2.rawN != 0 then some (bytes, n, none, r2, s2, cx1)
      else if r2.rawN != 0 then some (bytes, n, some .ueof, r2, s2, cx1)
      else if r2.fragmented then some (bytes, n, none, r2.resetFragment, s2, cx1)
      else if r2.checkUTF8 && !r2.utf8.valid then some (bytes, r2.utf8.accepted, some .utf8, r2, s2, cx1)
      else some (bytes, n, some .eof, r2.reset, s2, cx1)
    | some e =>
      if e != .utf8 && r2.rawN == 0 && !r2.fragmented && r2.checkUTF8 && !r2.utf8.valid then
        some (bytes, r2.utf8.accepted, some .utf8, r2, s2, cx1)
      else some (bytes, n, some e, r2, s2, cx1)

/-- the message ends here, inside a character -/
def badEnd (r2 : Rd) : Bool := r2.rawN == 0 && !r2.fragmented && r2.checkUTF8 && !r2.utf8.valid

/-- the end-of-frame decisions of Read apart from the validator's verdict: error and reader -/
def finish (r2 : Rd) (e : Option RErr) : Option RErr × Rd :=
  match e with
  | none => if r2.rawN != 0 then (none, r2) else afterFrame r2
  | some .eof => if r2.rawN != 0 then (some .ueof, r2) else afterFrame r2
  | some x => (some x, r2)

theorem tail_eq (r : Rd) (s : Src) (cx : Ctx) (k : Nat) :
    tail r s cx k = match r.frameRead s k with
      | none => none
      | some (bytes, n, e, r2, s2) =>
        if badEnd r2 && e != some .utf8 then some (bytes, r2.utf8.accepted, some .utf8, r2, s2, cx)
        else some (bytes, n, (finish r2 e).1, (finish r2 e).2, s2, cx) := by
  unfold tail
  cases r.frameRead s k with
  | none => rfl
  | some x =>
    obtain ⟨bytes, n, e, r2, s2⟩ := x
    simp only
    cases e with
    | none =>
      by_cases hz : r2.rawN = 0 <;> cases hf : r2.fragmented <;> cases hv : (r2.checkUTF8 && !r2.utf8.valid) <;>
        simp [badEnd, finish, afterFrame, hz, hf, hv, Bool.and_assoc]
    | some e1 =>
      cases e1 with
      | eof =>
        by_cases hz : r2.rawN = 0 <;> cases hf : r2.fragmented <;> cases hv : (r2.checkUTF8 && !r2.utf8.valid) <;>
          simp [badEnd, finish, afterFrame, hz, hf, hv, Bool.and_assoc]
      | _ =>
        -- any other error: the same condition, written with the error first
        have hc : ∀ x : RErr, (badEnd r2 && some x != some RErr.utf8)
            = (x != RErr.utf8 && r2.rawN == 0 && !r2.fragmented && r2.checkUTF8 && !r2.utf8.valid) := fun x => by
          have : (some x != some RErr.utf8) = (x != RErr.utf8) := by simp [bne]
          rw [this, Bool.and_comm]
          simp only [badEnd, Bool.and_assoc]
        rw [hc]
        rfl

theorem read_next_cb (r : Rd) (s : Src) (cx : Ctx) (k : Nat) (cb : Option Callback) (h : r.hasFrame = false) (hf : r.fragmented = true) :
    r.read s cx k cb =
      match (r.nextFrame s cx cb).2.1 with
      | some e => some ([], 0, some e, (r.nextFrame s cx cb).2.2.1, (r.nextFrame s cx cb).2.2.2.1, (r.nextFrame s cx cb).2.2.2.2)
      | none =>
        if (r.nextFrame s cx cb).2.2.1.hasFrame = false then
          some ([], 0, none, (r.nextFrame s cx cb).2.2.1, (r.nextFrame s cx cb).2.2.2.1, (r.nextFrame s cx cb).2.2.2.2)
        else tail (r.nextFrame s cx cb).2.2.1 (r.nextFrame s cx cb).2.2.2.1 (r.nextFrame s cx cb).2.2.2.2 k := by
  unfold Rd.read tail
  simp only [h, hf, Bool.not_false, Bool.not_true, if_true, Bool.false_eq_true, if_false]
  rcases r.nextFrame s cx cb with ⟨hd, e, r1, s1, cx1⟩
  cases e with
  | some e => rfl
  | none =>
    simp only
    cases hh : r1.hasFrame
    · simp only [Bool.not_false, if_true]
    · simp only [Bool.not_true, Bool.false_eq_true, if_false]
      rfl

theorem read_has_cb (r : Rd) (s : Src) (cx : Ctx) (k : Nat) (cb : Option Callback) (h : r.hasFrame = true) :
    r.read s cx k cb = tail r s cx k := by
  unfold Rd.read tail
  simp only [h, Bool.not_true, Bool.false_eq_true, if_false]
  rfl

theorem read_idle_cb (r : Rd) (s : Src) (cx : Ctx) (k : Nat) (cb : Option Callback) (h : r.hasFrame = false) (hf : r.fragmented = false) :
    r.read s cx k cb = some ([], 0, some .noAdvance, r, s, cx) := by
  unfold Rd.read
  simp [h, hf]

theorem finish_more {r : Rd} {e : Option RErr} (hn : r.rawN ≠ 0) (he : e ≠ some .eof) : finish r e = (e, r) := by
  unfold finish
  rcases e with _ | x
  · simp [hn]
  · cases x <;> first | exact absurd rfl he | rfl

theorem finish_end {r : Rd} {e : Option RErr} (h0 : r.rawN = 0) (he : e = none ∨ e = some .eof) : finish r e = afterFrame r := by
  rcases he with rfl | rfl <;> simp [finish, h0]

theorem badEnd_adv {r : Rd} (hv : r.checkUTF8 = false ∨ r.utf8.valid = true) (g : Nat) : badEnd (adv r g) = false := by
  have : ((adv r g).checkUTF8 && !(adv r g).utf8.valid) = false := by
    show (r.checkUTF8 && !r.utf8.valid) = false
    rcases hv with hv | hv <;> simp [hv]
  simp [badEnd, Bool.and_assoc, this]

theorem read_of_frameRead {r r2 : Rd} {s s2 : Src} {k n : Nat} {b : Bytes} {e : Option RErr} (cx : Ctx) (cb : Option Callback)
    (hhas : r.hasFrame = true) (hfr : r.frameRead s k = some (b, n, e, r2, s2)) (hb : badEnd r2 = false) :
    r.read s cx k cb = some (b, n, (finish r2 e).1, (finish r2 e).2, s2, cx) := by
  rw [read_has_cb r s cx k cb hhas, tail_eq, hfr]; simp [hb]

end Ws.RdText
