/-
  `strBytes` on a literal, as a list: the kernel otherwise builds a `ByteArray` from the literal
  (quadratic) and reads it back through a well-founded loop.
-/
import WsVerif.Model.Check

theorem ByteArray.toList_loop (bs : ByteArray) (i : Nat) (r : List UInt8) :
    ByteArray.toList.loop bs i r = r.reverse ++ bs.data.toList.drop i := by
  fun_induction ByteArray.toList.loop bs i r with
  | case1 i r h ih =>
    have h' : i < bs.data.toList.length := h
    rw [ih, List.reverse_cons, List.append_assoc, List.drop_eq_getElem_cons h']
    have e : bs.get! i = bs.data.toList[i] := by
      show bs.data[i]! = _
      rw [getElem!_pos bs.data i h]; rfl
    rw [e]; rfl
  | case2 i r h =>
    have : bs.data.toList.length ≤ i := Nat.le_of_not_lt h
    rw [List.drop_eq_nil_of_le this, List.append_nil]

theorem ByteArray.toList_eq (bs : ByteArray) : bs.toList = bs.data.toList := by
  rw [ByteArray.toList, ByteArray.toList_loop]; rfl

namespace Ws

theorem strBytes_ofList (cs : List Char) :
    strBytes (String.ofList cs) = (cs.flatMap String.utf8EncodeChar).map (·.toNat) := by
  rw [strBytes, String.toUTF8_eq_toByteArray, ByteArray.toList_eq]
  show (List.utf8Encode cs).data.toList.map _ = _
  rw [List.utf8Encode, List.data_toByteArray]

end Ws
