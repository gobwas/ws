/-
  The reader with UTF-8 checking on against the same reader with it off (`strip`), one Read of the frame stack at a
  time: the two make the same transport reads, hand out the same bytes and report the same errors for as long as the
  text delivered so far has not left Table 3-7; the checking reader adds ErrInvalidUTF8 at the first Read whose bytes
  do, and at the end of a message whose last character is incomplete (`TM`, `SimOut`, `tail_sim`). No assumption on
  the stream, so every stream theorem about the non-checking reader (Proofs/Reader.lean) carries over to text
  messages (Props/C07Stream).
-/
import WsVerif.Proofs.FrameRead
import WsVerif.Proofs.Utf8
namespace Ws.RdText
open Ws Ws.Spec Ws.RdProof Ws.FR

/-- the same reader without UTF-8 checking -/
def strip (r : Rd) : Rd := { r with checkUTF8 := false, utf8on := false, utf8 := {} }

/-- text that stays inside Table 3-7: all of it is counted, and `accepted` (`a`) is moved only by a byte that completes
    a character, so it stays behind the end unless the text ends between characters -/
theorem go_ok (u : Utf8Rd) (s : U8) (acc i : Nat) (p : Bytes) (hp : Bytes.WF p) (h : u8Run s p ≠ .rej) (hacc : acc ≤ i) :
    ∃ a, Utf8Rd.feed.go u (u8Enc s) acc i p = some (i + p.length, false, ⟨u8Enc (u8Run s p), a⟩)
      ∧ a ≤ i + p.length ∧ (u8Run s p ≠ .acc → a < i + p.length ∨ (p = [] ∧ a = acc)) := by
  induction p generalizing s acc i with
  | nil => exact ⟨acc, by simp [Utf8Rd.feed.go, u8Run], by simpa using hacc, fun _ => Or.inr ⟨rfl, rfl⟩⟩
  | cons b bs ih =>
    have hb0 : b < 256 := hp b (by simp)
    rw [u8Run_cons] at h
    have hne : u8Step s b ≠ .rej := by
      intro hr; rw [hr, u8Run_rej] at h; exact h rfl
    have hr : ¬ u8Enc (u8Step s b) = utf8Reject := by
      intro hr; exact hne (u8Enc_inj (by simpa [u8Enc, utf8Reject] using hr))
    simp only [Utf8Rd.feed.go, utf8Step_ok s hb0, hr, if_false, u8Run_cons]
    have hacc' : (if u8Enc (u8Step s b) = utf8Accept then i + 1 else acc) ≤ i + 1 := by split <;> omega
    obtain ⟨a, ha, hle, hlt⟩ := ih (u8Step s b) _ (i + 1) (fun x hx => hp x (by simp [hx])) h hacc'
    refine ⟨a, by rw [ha]; simp; omega, by simp at hle ⊢; omega, fun hna => Or.inl ?_⟩
    rcases hlt hna with hlt | ⟨rfl, rfl⟩
    · simp at hlt ⊢; omega
    · -- the last byte did not complete a character, so it did not move `acc`
      have hne2 : ¬ u8Enc (u8Step s b) = utf8Accept := fun hq =>
        hna (u8Enc_inj (by simpa [u8Run, u8Enc, utf8Accept] using hq))
      simp [hne2]; omega

/-- text that leaves Table 3-7: ErrInvalidUTF8 comes with a count short of what was fed, which is what keeps
    io.ReadFull from dropping it -/
theorem go_bad (u : Utf8Rd) (s : U8) (acc i : Nat) (p : Bytes) (hp : Bytes.WF p) (hs : s ≠ .rej)
    (h : u8Run s p = .rej) (hacc : acc ≤ i) :
    ∃ n u', Utf8Rd.feed.go u (u8Enc s) acc i p = some (n, true, u') ∧ n < i + p.length := by
  induction p generalizing s acc i with
  | nil => simp [u8Run] at h; exact absurd h hs
  | cons b bs ih =>
    have hb0 : b < 256 := hp b (by simp)
    rw [u8Run_cons] at h
    simp only [Utf8Rd.feed.go, utf8Step_ok s hb0]
    by_cases hr : u8Enc (u8Step s b) = utf8Reject
    · simp only [hr, if_true]
      exact ⟨acc, _, rfl, by simp; omega⟩
    · have hne : u8Step s b ≠ .rej := by
        intro hq; rw [hq] at hr; exact hr (by simp [u8Enc, utf8Reject])
      simp only [hr, if_false]
      obtain ⟨n, u', h1, h2⟩ := ih (u8Step s b) (if u8Enc (u8Step s b) = utf8Accept then i + 1 else acc) (i + 1)
        (fun x hx => hp x (by simp [hx])) hne h (by split <;> omega)
      exact ⟨n, u', h1, by simp; omega⟩

/-- put the UTF-8 fields of `r` back into a state of the non-checking reader -/
def restore (r q : Rd) : Rd := { q with checkUTF8 := r.checkUTF8, utf8on := r.utf8on, utf8 := r.utf8 }

theorem restore_strip (r : Rd) : restore r (strip r) = r := by cases r; rfl

theorem rawRead_strip (r : Rd) (s : Src) (k : Nat) :
    (strip r).rawRead s k = ((r.rawRead s k).1, (r.rawRead s k).2.1, strip (r.rawRead s k).2.2.1, (r.rawRead s k).2.2.2) := by
  by_cases h0 : r.rawN = 0
  · rw [rawRead_zero h0, rawRead_zero (r := strip r) h0]
  · rw [rawRead_pos h0, rawRead_pos (r := strip r) h0]; rfl

theorem frameRead_strip (r : Rd) (s : Src) (k : Nat) :
    (strip r).frameRead s k = (unmask r (r.rawRead s k).1).map fun plain =>
      (plain, plain.length, rawErr (r.rawRead s k).2.1, strip (adv r (r.rawRead s k).1.length), (r.rawRead s k).2.2.2) := by
  rw [frameRead_off (strip r) s k rfl, rawRead_strip]
  rfl

theorem frameRead_eq (r : Rd) (s : Src) (k : Nat) :
    r.frameRead s k = match (strip r).frameRead s k with
      | none => none
      | some (plain, _, e, q, s1) =>
        if r.utf8on then
          match r.utf8.feed plain with
          | none => none
          | some (n, bad, u') =>
            if bad then some (plain, n, some .utf8, { restore r q with utf8 := u' }, s1)
            else some (plain, n, e, { restore r q with utf8 := u' }, s1)
        else some (plain, plain.length, e, restore r q, s1) := by
  rw [frameRead_stages, frameRead_strip]
  cases unmask r (r.rawRead s k).1 with
  | none => rfl
  | some plain =>
    show validate _ _ _ _ = if r.utf8on = true then _ else _
    unfold validate
    show (if r.utf8on = true then match r.utf8.feed plain with | none => none | some (n, bad, u') => _ else _) = _
    split
    · cases r.utf8.feed plain with
      | none => rfl
      | some x => obtain ⟨n, bad, u'⟩ := x; cases bad <;> rfl
    · rfl

theorem strip_fragmented (r : Rd) : (strip r).fragmented = r.fragmented := rfl

theorem drainRaw_strip (r : Rd) (s : Src) (n : Nat) :
    (strip r).drainRaw s n = ((r.drainRaw s n).1, strip (r.drainRaw s n).2.1, (r.drainRaw s n).2.2) := by
  induction n generalizing r s with
  | zero => rfl
  | succ n ih =>
    unfold Rd.drainRaw
    rw [rawRead_strip]
    rcases hr : r.rawRead s 32768 with ⟨got, e, r', s'⟩
    simp only
    cases e with
    | some f => cases f <;> rfl
    | none =>
      have : (strip r').rawN = r'.rawN ∧ (strip r).rawN = r.rawN := ⟨rfl, rfl⟩
      simp only [this.1, this.2]
      split
      · rfl
      · exact ih r' s'

theorem finish_strip (r : Rd) (e : Option RErr) : finish (strip r) e = ((finish r e).1, strip (finish r e).2) := by
  have h1 : (strip r).rawN = r.rawN := rfl
  have h2 : (strip r).fragmented = r.fragmented := rfl
  have h3 : (strip r).resetFragment = strip r.resetFragment := rfl
  have h4 : (strip r).reset = strip r.reset := rfl
  unfold finish afterFrame
  rw [h1, h2, h3, h4]
  cases e with
  | none => by_cases hz : (r.rawN != 0) = true <;> cases hf : r.fragmented <;> simp [hz]
  | some e1 =>
    cases e1 with
    | eof => by_cases hz : (r.rawN != 0) = true <;> cases hf : r.fragmented <;> simp [hz]
    | _ => rfl

theorem finish_cases (r : Rd) (e : Option RErr) :
    (∃ e', e' ≠ some .eof ∧ finish r e = (e', r))
    ∨ (r.rawN = 0 ∧ (e = none ∨ e = some .eof) ∧ finish r e = afterFrame r) := by
  by_cases he : e = none ∨ e = some .eof
  · by_cases h0 : r.rawN = 0
    · exact Or.inr ⟨h0, he, finish_end h0 he⟩
    · -- bytes of the frame are outstanding: no error stays none, the stack's io.EOF becomes io.ErrUnexpectedEOF
      rcases he with rfl | rfl
      · exact Or.inl ⟨none, nofun, by simp [finish, h0]⟩
      · exact Or.inl ⟨some .ueof, nofun, by simp [finish, h0]⟩
  · refine Or.inl ⟨e, fun h => he (Or.inr h), ?_⟩
    rcases e with _ | x
    · exact absurd (Or.inl rfl) he
    · cases x <;> first | exact absurd (Or.inr rfl) he | rfl

theorem finish_none (r : Rd) (e : Option RErr) (h : (finish r e).1 = none) :
    (finish r e).2 = r ∨ (r.fragmented = true ∧ (finish r e).2 = r.resetFragment) := by
  rcases finish_cases r e with ⟨e', _, hf⟩ | ⟨_, _, hf⟩
  · exact Or.inl (by rw [hf])
  · rw [hf] at h ⊢
    unfold afterFrame at h ⊢
    cases hfr : r.fragmented
    · rw [hfr] at h; cases h
    · exact Or.inr ⟨rfl, rfl⟩

theorem finish_eof (r : Rd) (e : Option RErr) (h : (finish r e).1 = some .eof) :
    r.rawN = 0 ∧ r.fragmented = false ∧ e ≠ some .utf8 ∧ (finish r e).2 = r.reset := by
  rcases finish_cases r e with ⟨e', hne, hf⟩ | ⟨h0, he, hf⟩
  · rw [hf] at h; exact absurd h hne
  · rw [hf] at h ⊢
    unfold afterFrame at h ⊢
    cases hfr : r.fragmented
    · exact ⟨h0, rfl, by rcases he with rfl | rfl <;> nofun, rfl⟩
    · rw [hfr] at h; cases h

theorem finish_ended (r : Rd) (e : Option RErr) (hz : r.rawN = 0) (hf : r.fragmented = false) : (finish r e).1 ≠ none := by
  unfold finish afterFrame
  cases e with
  | none => simp [hz, hf]
  | some e1 => cases e1 <;> simp [hz, hf]

theorem finish_badEnd (r : Rd) (e : Option RErr) (h : badEnd (finish r e).2 = true) : (finish r e).2 = r ∧ (finish r e).1 = e := by
  have hrs : badEnd r.reset = false := by
    show (_ && !(Utf8Rd.valid {})) = false
    simp [Utf8Rd.valid, utf8Accept]
  have key : badEnd (afterFrame r).2 = false := by
    unfold afterFrame
    cases hf : r.fragmented
    · simpa using hrs
    · have : r.resetFragment.fragmented = true := hf
      simp [badEnd, this]
  -- the frame stack reported the frame's end or nothing: `finish` left no bad end
  have hend : e = none ∨ e = some .eof → False := fun he => by
    by_cases hz : r.rawN = 0
    · rw [finish_end hz he, key] at h; cases h
    · have hb : badEnd (finish r e).2 = false := by rcases he with rfl | rfl <;> simp [finish, badEnd, hz]
      rw [hb] at h; cases h
  cases e with
  | none => exact (hend (Or.inl rfl)).elim
  | some e1 =>
    cases e1 with
    | eof => exact (hend (Or.inr rfl)).elim
    | _ => exact ⟨rfl, rfl⟩

theorem tail_off (r : Rd) (s : Src) (cx : Ctx) (k : Nat) (hoff : r.utf8on = false)
    (hv : r.checkUTF8 = false ∨ r.utf8.valid = true) :
    tail r s cx k = (unmask r (r.rawRead s k).1).map fun plain =>
      (plain, plain.length, (finish (adv r (r.rawRead s k).1.length) (rawErr (r.rawRead s k).2.1)).1,
       (finish (adv r (r.rawRead s k).1.length) (rawErr (r.rawRead s k).2.1)).2, (r.rawRead s k).2.2.2, cx) := by
  rw [tail_eq, frameRead_off r s k hoff]
  cases unmask r (r.rawRead s k).1 with
  | none => rfl
  | some plain =>
    simp only [Option.map_some, badEnd_adv hv, Bool.false_and, Bool.false_eq_true, if_false]

theorem tail_strip (r : Rd) (s : Src) (cx : Ctx) (k : Nat) :
    tail (strip r) s cx k = (unmask r (r.rawRead s k).1).map fun plain =>
      (plain, plain.length, (finish (adv r (r.rawRead s k).1.length) (rawErr (r.rawRead s k).2.1)).1,
       strip (finish (adv r (r.rawRead s k).1.length) (rawErr (r.rawRead s k).2.1)).2, (r.rawRead s k).2.2.2, cx) := by
  rw [tail_off (strip r) s cx k rfl (Or.inl rfl), rawRead_strip]
  show (unmask r (r.rawRead s k).1).map (fun plain => (plain, plain.length, (finish (strip (adv r (r.rawRead s k).1.length)) _).1,
    (finish (strip (adv r (r.rawRead s k).1.length)) _).2, _, cx)) = _
  simp only [finish_strip]

/-- the checking reader inside a text message whose delivered bytes so far have led Table 3-7 to position `σ` -/
structure TM (σ : U8) (r : Rd) : Prop where
  chk : r.checkUTF8 = true
  st : r.utf8.state = u8Enc σ
  ok : σ ≠ .rej
  on : r.hasFrame = true → r.utf8on = true
  op : r.fragmented = true → r.opCode = opText
  mid : r.hasFrame = true ∨ r.fragmented = true

/-- outcome of one Read of the checking reader (`real`) against the non-checking one
    (`bytes, n, e, q, s', cx'`): the same, or ErrInvalidUTF8 exactly when the text left Table 3-7 or the
    message ended (`e ≠ none`: io.EOF, or the transport's failure arriving with the last bytes) inside a
    character -/
def SimOut (σ : U8) (real : Option (Bytes × Nat × Option RErr × Rd × Src × Ctx))
    (bytes : Bytes) (n : Nat) (e : Option RErr) (q : Rd) (s' : Src) (cx' : Ctx) : Prop :=
  n = bytes.length ∧
  ((u8Run σ bytes ≠ .rej ∧ (e = some .eof → u8Run σ bytes = .acc)
      ∧ ∃ r', real = some (bytes, n, e, r', s', cx') ∧ strip r' = q ∧ (e = none → TM (u8Run σ bytes) r'))
   ∨ ((u8Run σ bytes = .rej ∨ (e ≠ none ∧ u8Run σ bytes ≠ .acc))
      ∧ ∃ m r', real = some (bytes, m, some .utf8, r', s', cx') ∧ m ≤ bytes.length ∧ (bytes ≠ [] → m < bytes.length)))

theorem u8Enc_acc (x : U8) : (u8Enc x == utf8Accept) = true ↔ x = .acc := by
  constructor
  · intro h; exact u8Enc_inj (by simpa [utf8Accept, u8Enc] using h)
  · rintro rfl; rfl

theorem feed_ok (u : Utf8Rd) (σ : U8) (hs : u.state = u8Enc σ) (p : Bytes) (hp : Bytes.WF p) (h : u8Run σ p ≠ .rej) :
    ∃ a, u.feed p = some (p.length, false, ⟨u8Enc (u8Run σ p), a⟩)
      ∧ a ≤ p.length ∧ (p ≠ [] → u8Run σ p ≠ .acc → a < p.length) := by
  unfold Utf8Rd.feed; rw [hs]
  obtain ⟨a, ha, hle, hlt⟩ := go_ok u σ 0 0 p hp h (Nat.le_refl _)
  exact ⟨a, by rw [ha]; simp, by simpa using hle, fun h1 h2 => (hlt h2).elim (fun h3 => by simpa using h3) fun h3 => absurd h3.1 h1⟩

theorem feed_bad (u : Utf8Rd) (σ : U8) (hs : u.state = u8Enc σ) (p : Bytes) (hp : Bytes.WF p) (h0 : σ ≠ .rej)
    (h : u8Run σ p = .rej) : ∃ n u', u.feed p = some (n, true, u') ∧ n < p.length := by
  unfold Utf8Rd.feed; rw [hs]
  obtain ⟨n, u', h1, h2⟩ := go_bad u σ 0 0 p hp h0 h (Nat.le_refl _)
  exact ⟨n, u', h1, by simpa using h2⟩

/-- The second half of Read, checking reader against non-checking reader: both are the same `rawRead` and cipher step
    (`tail_strip`, `tail_eq`); then by whether the validator accepts the bytes (`feed_ok` / `feed_bad`) and whether the
    message ends inside a character (`badEnd`). -/
theorem tail_sim {σ : U8} {r : Rd} {s : Src} {cx : Ctx} {k : Nat} (htm : TM σ r) (hhas : r.hasFrame = true)
    {bytes : Bytes} {n : Nat} {e : Option RErr} {q : Rd} {s' : Src} {cx' : Ctx}
    (h : tail (strip r) s cx k = some (bytes, n, e, q, s', cx')) (hwf : Bytes.WF bytes) :
    SimOut σ (tail r s cx k) bytes n e q s' cx' := by
  rw [tail_strip] at h
  rw [tail_eq, frameRead_stages]
  cases hu : unmask r (r.rawRead s k).1 with
  | none => rw [hu] at h; cases h
  | some plain =>
    rw [hu] at h
    -- `adv` moves the position in the frame only
    have htm0 : TM σ (adv r (r.rawRead s k).1.length) := ⟨htm.chk, htm.st, htm.ok, htm.on, htm.op, htm.mid⟩
    have hhas0 : (adv r (r.rawRead s k).1.length).hasFrame = true := hhas
    generalize adv r (r.rawRead s k).1.length = R0, rawErr (r.rawRead s k).2.1 = e0, (r.rawRead s k).2.2.2 = s1 at h htm0 hhas0 ⊢
    simp only [Option.map_some, Option.some.injEq, Prod.mk.injEq] at h
    obtain ⟨rfl, rfl, rfl, rfl, rfl, rfl⟩ := h
    refine ⟨rfl, ?_⟩
    dsimp only
    unfold validate
    rw [if_pos (htm0.on hhas0)]
    by_cases hrej : u8Run σ plain = .rej
    · -- the text leaves Table 3-7 inside this Read
      obtain ⟨m, u', hf, hmlt⟩ := feed_bad R0.utf8 σ htm0.st plain hwf htm0.ok hrej
      rw [hf]
      exact Or.inr ⟨Or.inl hrej, m, { R0 with utf8 := u' }, by simp [finish], Nat.le_of_lt hmlt, fun _ => hmlt⟩
    · obtain ⟨a, hf, hale, halt⟩ := feed_ok R0.utf8 σ htm0.st plain hwf hrej
      rw [hf]
      simp only [Bool.false_eq_true, if_false]
      obtain ⟨R, hR⟩ : ∃ R : Rd, R = { R0 with utf8 := ⟨u8Enc (u8Run σ plain), a⟩ } := ⟨_, rfl⟩
      rw [← hR]
      have hRs : strip R0 = strip R := by rw [hR]; rfl
      have hfs : finish (strip R0) e0 = finish (strip R) e0 := by rw [hRs]
      rw [finish_strip, finish_strip, Prod.mk.injEq] at hfs
      rw [hfs.1, hfs.2]
      have hRtm : TM (u8Run σ plain) R :=
        ⟨by rw [hR]; exact htm0.chk, by rw [hR], hrej, fun _ => by rw [hR]; exact htm0.on hhas0, by rw [hR]; exact htm0.op,
          Or.inl (by rw [hR]; exact hhas0)⟩
      have hRval : R.utf8.valid = true ↔ u8Run σ plain = .acc := by rw [hR]; exact u8Enc_acc _
      by_cases hbe : (badEnd R && e0 != some .utf8) = true
      · -- the message ends inside a character
        rw [if_pos hbe]
        simp only [badEnd, Bool.and_eq_true, beq_iff_eq, Bool.not_eq_true'] at hbe
        obtain ⟨⟨⟨⟨hz, hfr⟩, _⟩, hv⟩, _⟩ := hbe
        have hnacc : u8Run σ plain ≠ .acc := fun hacc => by rw [hRval.mpr hacc] at hv; cases hv
        exact Or.inr ⟨Or.inr ⟨finish_ended R e0 hz hfr, hnacc⟩, a, R, rfl, hale, fun hne => halt hne hnacc⟩
      · rw [if_neg hbe]
        refine Or.inl ⟨hrej, fun he => ?_, _, rfl, rfl, fun hn => ?_⟩
        · obtain ⟨hz, hfr, hne, _⟩ := finish_eof R e0 he
          by_cases hacc : u8Run σ plain = .acc
          · exact hacc
          · have hv : R.utf8.valid = false := by
              cases hv : R.utf8.valid
              · rfl
              · exact absurd (hRval.mp hv) hacc
            exact absurd (by simp [badEnd, hz, hfr, hRtm.chk, hv, hne]) hbe
        · rcases finish_none R e0 hn with h1 | ⟨hfr, h1⟩ <;> rw [h1]
          · exact hRtm
          · exact ⟨hRtm.chk, hRtm.st, hRtm.ok, fun hh => by simp [Rd.resetFragment] at hh, hRtm.op, Or.inr hfr⟩

theorem tail_strip_n (r : Rd) {s : Src} {cx : Ctx} {k : Nat} {bytes : Bytes} {n : Nat} {e : Option RErr} {q : Rd}
    {s' : Src} {cx' : Ctx} (h : tail (strip r) s cx k = some (bytes, n, e, q, s', cx')) : n = bytes.length := by
  rw [tail_strip] at h
  obtain ⟨_, _, heq⟩ := Option.map_eq_some_iff.mp h
  cases heq
  rfl

end Ws.RdText
