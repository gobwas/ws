/- Lemmas for C02: the byte loop `xorFrom` is §5.3's `xorSpec`, can be cut at any index and sees its
   position modulo 4 only; one 64-bit load / XOR / store is eight steps of it, hence the 16-byte word
   loop is `xorFrom` on an aligned region. -/
import WsVerif.Model.Cipher
import WsVerif.Spec.Cipher
namespace Ws
open Ws.Spec

theorem keyAt_eq_get (m : Mask) (j : Nat) : keyAt m j = m.get j := by
  unfold keyAt Mask.get Mask.toList
  have h : j % 4 < 4 := Nat.mod_lt _ (by omega)
  generalize j % 4 = r at h
  match r, h with
  | 0, _ => rfl
  | 1, _ => rfl
  | 2, _ => rfl
  | 3, _ => rfl

theorem Mask.get_congr (m : Mask) {i j : Nat} (h : i % 4 = j % 4) : m.get i = m.get j := by
  unfold Mask.get; rw [h]

theorem Mask.get_mod (m : Mask) (j : Nat) : m.get (j % 4) = m.get j := m.get_congr (Nat.mod_mod j 4)

theorem Mask.zero_wf : Mask.zero.WF := by decide

theorem xorFrom_eq_spec (m : Mask) (s : Nat) (p : Bytes) : xorFrom m s p = xorSpec p m s := by
  unfold xorSpec
  induction p generalizing s with
  | nil => simp [xorFrom]
  | cons b bs ih =>
    simp only [xorFrom, List.mapIdx_cons, Nat.add_zero, keyAt_eq_get]
    congr 1
    rw [ih (s + 1)]
    congr 1
    funext i b
    simp only [keyAt_eq_get]
    congr 2; omega

theorem xorSpec_length (p : Bytes) (m : Mask) (s : Nat) : (xorSpec p m s).length = p.length := by
  simp [xorSpec]

theorem xorFrom_length (m : Mask) (s : Nat) (p : Bytes) : (xorFrom m s p).length = p.length := by
  rw [xorFrom_eq_spec, xorSpec_length]

theorem xorFrom_append (m : Mask) (s : Nat) (a b : Bytes) :
    xorFrom m s (a ++ b) = xorFrom m s a ++ xorFrom m (s + a.length) b := by
  induction a generalizing s with
  | nil => simp [xorFrom]
  | cons x xs ih =>
    simp only [List.cons_append, xorFrom, List.length_cons, ih]
    congr 3; omega

theorem xorFrom_split (m : Mask) (s k : Nat) (p : Bytes) :
    xorFrom m s p = xorFrom m s (p.take k) ++ xorFrom m (s + k) (p.drop k) := by
  by_cases h : k ≤ p.length
  · conv => lhs; rw [← List.take_append_drop k p]
    rw [xorFrom_append, List.length_take, Nat.min_eq_left h]
  · rw [List.take_of_length_le (by omega), List.drop_of_length_le (by omega), xorFrom, List.append_nil]

theorem xorFrom_congr (m : Mask) {s t : Nat} (h : s % 4 = t % 4) (p : Bytes) :
    xorFrom m s p = xorFrom m t p := by
  induction p generalizing s t with
  | nil => rfl
  | cons b bs ih =>
    simp only [xorFrom]
    rw [m.get_congr h, ih (s := s + 1) (t := t + 1) (by omega)]

theorem xorFrom_wf {m : Mask} (hm : m.WF) (s : Nat) {p : Bytes} (hp : Bytes.WF p) :
    Bytes.WF (xorFrom m s p) := by
  induction p generalizing s with
  | nil => exact Bytes.WF.nil
  | cons x xs ih =>
    obtain ⟨hx, hxs⟩ := Bytes.wf_cons.mp hp
    have hk : m.get s < 2 ^ 8 := by
      obtain ⟨a, b, c, d⟩ := hm
      unfold Mask.get; split <;> omega
    exact Bytes.wf_cons.mpr ⟨Nat.xor_lt_two_pow hx hk, ih (s + 1) hxs⟩

theorem leVal_lt (c : Bytes) (hc : Bytes.WF c) : leVal c < 256 ^ c.length := by
  induction c with
  | nil => simp [leVal]
  | cons b bs ih =>
    obtain ⟨hb, hbs⟩ := Bytes.wf_cons.mp hc
    have := ih hbs
    simp only [leVal, List.length_cons, Nat.pow_succ]
    omega

theorem putLe_xor (a b : Bytes) (ha : Bytes.WF a) (hb : Bytes.WF b) (hl : a.length = b.length) :
    putLe a.length (leVal a ^^^ leVal b) = List.zipWith (· ^^^ ·) a b := by
  induction a generalizing b with
  | nil => simp [putLe]
  | cons x xs ih =>
    match b, hl with
    | y :: ys, hl =>
      obtain ⟨hx, hxs⟩ := Bytes.wf_cons.mp ha
      obtain ⟨hy, hys⟩ := Bytes.wf_cons.mp hb
      simp only [List.length_cons, putLe, leVal, List.zipWith_cons_cons]
      have e1 : (x + 256 * leVal xs ^^^ y + 256 * leVal ys) % 256 = x ^^^ y := by
        rw [show (256 : Nat) = 2 ^ 8 from rfl, Nat.xor_mod_two_pow]; congr 1 <;> omega
      have e2 : (x + 256 * leVal xs ^^^ y + 256 * leVal ys) / 256 = leVal xs ^^^ leVal ys := by
        rw [show (256 : Nat) = 2 ^ 8 from rfl, Nat.xor_div_two_pow]; congr 1 <;> omega
      rw [e1, e2, ih ys hxs hys (by simpa using hl)]

theorem m2_eq (m : Mask) (hm : m.WF) :
    ((le32 m <<< 32) ||| le32 m) = leVal [m.m0, m.m1, m.m2, m.m3, m.m0, m.m1, m.m2, m.m3] := by
  obtain ⟨a, b, c, d⟩ := hm
  have h : le32 m < 2 ^ 32 := by unfold le32; omega
  rw [← Nat.shiftLeft_add_eq_or_of_lt h, Nat.shiftLeft_eq]
  simp only [leVal, le32]
  omega

theorem lane8 (m : Mask) (hm : m.WF) {c : Bytes} (hc : Bytes.WF c) (hl : c.length = 8)
    (s : Nat) (hs : s % 4 = 0) :
    putLe64 (leVal c ^^^ ((le32 m <<< 32) ||| le32 m)) = xorFrom m s c := by
  match c, hl with
  | [c0, c1, c2, c3, c4, c5, c6, c7], _ =>
    have hk : Bytes.WF [m.m0, m.m1, m.m2, m.m3, m.m0, m.m1, m.m2, m.m3] := by
      obtain ⟨a, b, c, d⟩ := hm
      intro x hx; simp at hx; omega
    -- at an aligned position the key bytes are m0 m1 m2 m3 m0 m1 m2 m3: `xorFrom m 0 [c0, …, c7]` evaluates to
    -- the `zipWith` of `putLe_xor` with them, which the closing `exact` leaves to the unifier
    rw [m2_eq m hm, xorFrom_congr m (show s % 4 = 0 % 4 from hs)]
    exact putLe_xor [c0, c1, c2, c3, c4, c5, c6, c7] _ hc hk rfl

theorem le64_eq {c : Bytes} (h : c.length = 8) : le64 c = some (leVal c) := if_pos h

theorem wordLoop_eq (m : Mask) (hm : m.WF) (n : Nat) (p : Bytes) (hp : Bytes.WF p)
    (hl : p.length = 16 * n) (s : Nat) (hs : s % 4 = 0) :
    wordLoop ((le32 m <<< 32) ||| le32 m) n p = some (xorFrom m s p) := by
  induction n generalizing p s with
  | zero =>
    have : p = [] := List.eq_nil_of_length_eq_zero (by omega)
    subst this; rfl
  | succ k ih =>
    have l1 : (p.take 8).length = 8 := by rw [List.length_take]; omega
    have l2 : ((p.drop 8).take 8).length = 8 := by rw [List.length_take, List.length_drop]; omega
    have l3 : (p.drop 16).length = 16 * k := by rw [List.length_drop]; omega
    rw [wordLoop, le64_eq l1, le64_eq l2, xorFrom_split m s 8 p, xorFrom_split m (s + 8) 8 (p.drop 8),
      List.drop_drop]
    simp only [ih (p.drop 16) (hp.drop 16) l3 (s + 16) (by omega),
      lane8 m hm (hp.take 8) l1 s hs, lane8 m hm ((hp.drop 8).take 8) l2 (s + 8) (by omega),
      List.append_assoc]

end Ws
