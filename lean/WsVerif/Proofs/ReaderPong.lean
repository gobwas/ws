/-
  `wsutil.ControlFrameHandler` as the reader's OnIntermediate (the documented set-up of a wsutil.Reader), an instance
  of `Handles`: interleaved pings (0..125 bytes) are answered with exactly one pong carrying the identical payload,
  interleaved pongs with nothing. What the handler does to the destination is a RELATION (`Reply`, `Handled`),
  because the handler's exact environment depends on how the control payload happened to be chunked while its wire
  output does not (C08.ping_reply_ok).
-/
import WsVerif.Proofs.ReaderCb
import WsVerif.Props.C08
namespace Ws.RdPong
open Ws Ws.Spec Ws.RdProof Ws.RdBin Ws.RdCb Ws.C06 Ws.C08

/-- wsutil.ControlFrameHandler(w, state) as the reader's OnIntermediate -/
abbrev pongH (client : Bool) (errText : ProtoErr → Bytes) : Callback := controlFrameHandler client errText false none

/-- the pong that answers ping `f` under the drawn mask `m` -/
def pongWire (client : Bool) (f : WFrame) (m : Mask) : Bytes :=
  if f.h.len = 0 then frameHeaderOnly client opPong   -- a bare header (the client's carries the all-zero key)
  else rfcEncode (wireHeader client ⟨true, 0, opPong, false, Mask.zero, f.h.len⟩ m) ++ wirePayload client f.plain m

/-- an interleaved control frame this development covers: a ping (0..125 bytes), or any pong -/
def GoodCtl (f : WFrame) : Prop :=
  (f.h.op = opPing ∧ f.h.len ≤ 125) ∨ f.h.op = opPong

/-- what handling the control frame `f` does to the context -/
def Reply (client : Bool) (f : WFrame) (cx cx' : Ctx) : Prop :=
  EnvOk cx'.env ∧ cx'.msgs = cx.msgs ∧
    ((f.h.op = opPing ∧ cx'.env.dst.writes = cx.env.dst.writes ++ [pongWire client f cx.env.popMask.1])
     ∨ (f.h.op = opPong ∧ cx'.env.dst.writes = cx.env.dst.writes))

/-- the contexts the handler can reach over the control frames of `fs`: `Run (ponging client).eff` written out
    (`run_pong`) -/
inductive Handled (client : Bool) : List WFrame → Ctx → Ctx → Prop
  | nil (cx : Ctx) : Handled client [] cx cx
  | data (f : WFrame) (fs : List WFrame) (cx cxF : Ctx) : opIsControl f.h.op = false →
      Handled client fs cx cxF → Handled client (f :: fs) cx cxF
  | ctl (f : WFrame) (fs : List WFrame) (cx cx1 cxF : Ctx) : opIsControl f.h.op = true →
      Reply client f cx cx1 → Handled client fs cx1 cxF → Handled client (f :: fs) cx cxF

def ponging (client : Bool) : CtlSpec := ⟨GoodCtl, fun cx => EnvOk cx.env, Reply client⟩

theorem ping_reply (client : Bool) (f : WFrame) (src : CtlSrc) (e : Env) (errText : ProtoErr → Bytes) (he : EnvOk e)
    (hok : f.OK) (hop : f.h.op = opPing) (hlen : f.h.len ≤ 125)
    (hsrc : src.bytes = f.plain) (hfin : src.fin = .eof) (hue : src.ueofEnd = false) :
    ∃ e', handleControl client f.h src false e errText = some (none, e') ∧ EnvOk e'
      ∧ e'.dst.writes = e.dst.writes ++ [pongWire client f e.popMask.1] := by
  unfold handleControl pongWire
  rw [if_pos hop]
  by_cases hz : f.h.len = 0
  · -- a bare pong header answers an empty ping
    have hwr := C06.dst_write_ok e.dst (frameHeaderOnly client opPong) he.no_fail
    unfold handlePing
    simp only [hz, if_true, hwr]
    exact ⟨_, rfl, ⟨he.masks_wf, he.no_fail⟩, rfl⟩
  · rw [if_neg hz, ← hsrc]
    exact C08.ping_reply_ok client f.h src e he ⟨Nat.pos_of_ne_zero hz, hlen⟩ (by rw [hsrc, hok.plain_length]) (hsrc ▸ hok.plain_wf)
      hfin hue

theorem pong_reply (client : Bool) (h : Header) (chunks : List Bytes) (e : Env) (errText : ProtoErr → Bytes) (hop : h.op = opPong) :
    handleControl client h { chunks := chunks } false e errText = some (none, e) := by
  unfold handleControl handlePong
  rw [if_neg (by rw [hop]; decide), if_pos hop]
  split <;> rfl

theorem handles_pong (client : Bool) (errText : ProtoErr → Bytes) :
    Handles (some (pongH client errText)) (ponging client) := by
  refine handles_of_reads _ _ ?_
  intro f r s1 cx tail hok _ hgood he hin
  have hop : f.h.op = opPing ∨ f.h.op = opPong ∨ f.h.op = opClose := hgood.elim (fun h => Or.inl h.1) (fun h => Or.inr (Or.inl h))
  -- the handler reads the payload through the frame stack to its end, if the frame announces one
  obtain ⟨chunks, g, s2, hP, hfl, hb2, ht2, hf2, hmu2⟩ : ∃ chunks g s2,
      ctlPull false none f.h (NF.armed r f.h r.compressed) s1 cx = (chunks, .eof, adv (NF.armed r f.h r.compressed) g, s2, cx)
      ∧ chunks.flatten = f.plain ∧ s2.bytes = f.wire.drop g ++ tail ∧ Src.Tame s2 ∧ s2.fin = s1.fin
      ∧ mu s2 ≤ mu s1 := by
    unfold ctlPull
    by_cases hz : f.h.len = 0
    · have hw0 : f.wire = [] := List.length_eq_zero_iff.mp (by rw [hok.len]; exact hz)
      rw [if_neg fun h => h.1 hz]
      exact ⟨[], 0, s1, by rw [adv_zero], by simp [WFrame.plain, hw0, xorSpec], by simpa using hin.bytes, hin.tame, rfl,
        Nat.le_refl _⟩
    · obtain ⟨chunks, s2, hp, hfl, hb2, ht2, hf2, hmu2⟩ := pull_payload _ s1 cx (k := 32768) hin (by decide)
      rw [if_pos ⟨hz, hop⟩]
      exact ⟨chunks, f.wire.length, s2, hp, hfl, by simpa using hb2, ht2, hf2, hmu2⟩
  obtain ⟨e', hh, he', hrep⟩ : ∃ e', handleControl client f.h { chunks := chunks } false cx.env errText = some (none, e') ∧ EnvOk e'
      ∧ ((f.h.op = opPing ∧ e'.dst.writes = cx.env.dst.writes ++ [pongWire client f cx.env.popMask.1])
         ∨ (f.h.op = opPong ∧ e'.dst.writes = cx.env.dst.writes)) := by
    rcases hgood with ⟨hping, hl125⟩ | hpong
    · obtain ⟨e', h1, h2, h3⟩ := ping_reply client f { chunks := chunks } cx.env errText he hok hping hl125 hfl rfl rfl
      exact ⟨e', h1, h2, Or.inl ⟨hping, h3⟩⟩
    · exact ⟨cx.env, pong_reply client f.h chunks cx.env errText hpong, he, Or.inr ⟨hpong, rfl⟩⟩
  refine ⟨g, s2, { cx with env := e', events := cx.events ++ [(f.h.op, chunks.flatten)] }, ?_, hb2, ht2, hf2, hmu2, he',
    ⟨he', rfl, hrep⟩⟩
  show controlFrameHandler client errText false none _ _ _ _ = _
  rw [controlFrameHandler_clean hP, hh]
  rfl

theorem run_pong {client : Bool} {fs : List WFrame} {cx cx' : Ctx} :
    Run (ponging client).eff fs cx cx' ↔ Handled client fs cx cx' := by
  constructor
  · intro h
    induction h with
    | nil cx => exact Handled.nil cx
    | data f fs cx cxF hd _ ih => exact Handled.data f fs cx cxF hd ih
    | ctl f fs cx cx1 cxF hc he _ ih => exact Handled.ctl f fs cx cx1 cxF hc he ih
  · intro h
    induction h with
    | nil cx => exact Run.nil cx
    | data f fs cx cxF hd _ ih => exact Run.data f fs cx cxF hd ih
    | ctl f fs cx cx1 cxF hc he _ ih => exact Run.ctl f fs cx cx1 cxF hc he ih

/-- One Reader.Read anywhere inside a message, OnIntermediate = wsutil.ControlFrameHandler, the interleaved control
    frames `GoodCtl`: as `RdProof.step`, and whatever the handler can lead to over the remaining frames from `cx'` it
    could lead to over all the frames from `cx`; at io.EOF it has handled them all. -/
theorem step_h (client : Bool) (errText : ProtoErr → Bytes) (ao skip : Bool) (st maxF : Nat) (rest : Bytes) (r : Rd) (s : Src) (cx : Ctx)
    (k : Nat) (hk : 0 < k) (rem : Bytes) (fs0 : List WFrame) (hs : Sync ao skip st maxF rest r s rem fs0)
    (henv : EnvOk cx.env) (hg : ∀ f ∈ fs0, opIsControl f.h.op = true → GoodCtl f) :
    (∃ bytes e r' s' cx', r.read s cx k (some (pongH client errText)) = some (bytes, bytes.length, e, r', s', cx') ∧ EnvOk cx'.env ∧
      ((e = none ∧ ∃ rem' fs', rem = bytes ++ rem' ∧ Sync ao skip st maxF rest r' s' rem' fs' ∧ weight r' s' < weight r s
            ∧ (∀ f ∈ fs', f ∈ fs0) ∧ (∀ cxF, Handled client fs' cx' cxF → Handled client fs0 cx cxF))
       ∨ (e = some .eof ∧ rem = bytes ∧ s'.bytes = rest ∧ Src.Tame s' ∧ Done st r r' ∧ Handled client fs0 cx cx')))
    ∨ AtEnd ao skip st maxF rest r s rem := by
  rcases step_g (handles_pong client errText) cx hk hs henv hg with
    ⟨b, e, r', s', cx', pre, fs', hrd, henv', hfs, hrun, hcase⟩ | ⟨hend, _⟩
  · refine Or.inl ⟨b, e, r', s', cx', hrd, henv', ?_⟩
    rcases hcase with ⟨he, rem', g1, g2, g3⟩ | ⟨he, g1, g2, g3, g4, g5⟩
    · exact Or.inl ⟨he, rem', fs', g1, g2, g3, fun f hf => hfs ▸ List.mem_append_right _ hf,
        fun cxF h => hfs ▸ run_pong.mp (hrun.append (run_pong.mpr h))⟩
    · subst g5
      exact Or.inr ⟨he, g1, g2, g3, g4, by rw [hfs, List.append_nil]; exact run_pong.mp hrun⟩
  · exact Or.inr hend

end Ws.RdPong
