/-
  The "headers seen" word of both handshakes: one bit per recognised name, OR-ed in line by line.
-/
namespace Ws

theorem seen_testBit {α : Type} (bit : α → Nat) (xs : List α) (s i : Nat) :
    (xs.foldl (fun a x => a ||| bit x) s).testBit i = (s.testBit i || xs.any fun x => (bit x).testBit i) := by
  induction xs generalizing s with
  | nil => simp
  | cons x r ih => simp [ih, Nat.testBit_or, Bool.or_assoc]

theorem seen_testBit_iff {α : Type} (bit : α → Nat) (xs : List α) (i : Nat) :
    (xs.foldl (fun a x => a ||| bit x) 0).testBit i = true ↔ ∃ x ∈ xs, (bit x).testBit i = true := by
  simp [seen_testBit]

theorem seen_full {α : Type} {bit : α → Nat} {xs : List α} {n : Nat}
    (h : xs.foldl (fun a x => a ||| bit x) 0 = 2 ^ n - 1) (i : Nat) (hi : i < n) :
    ∃ x ∈ xs, (bit x).testBit i = true :=
  (seen_testBit_iff bit xs i).mp (by rw [h, Nat.testBit_two_pow_sub_one, decide_eq_true hi])

theorem seen_full_iff {α : Type} (bit : α → Nat) (xs : List α) (n : Nat) (hlt : ∀ x, bit x < 2 ^ n) :
    xs.foldl (fun a x => a ||| bit x) 0 = 2 ^ n - 1 ↔ ∀ i < n, ∃ x ∈ xs, (bit x).testBit i = true := by
  refine ⟨seen_full, fun h => Nat.eq_of_testBit_eq fun i => ?_⟩
  rw [Nat.testBit_two_pow_sub_one]
  by_cases hi : i < n
  · rw [(seen_testBit_iff bit xs i).mpr (h i hi), decide_eq_true hi]
  · rw [decide_eq_false hi, Bool.eq_false_iff, Ne, seen_testBit_iff]
    rintro ⟨x, _, hx⟩
    have := Nat.testBit_lt_two_pow (Nat.lt_of_lt_of_le (hlt x) (Nat.pow_le_pow_right (by omega) (Nat.le_of_not_lt hi)))
    rw [this] at hx
    cases hx

/-- Each of the two header walks tests a name against five known ones in turn: it is one of them, or none. -/
theorem five_cases {α : Type} [DecidableEq α] (k a b c d e : α) :
    k = a ∨ k = b ∨ k = c ∨ k = d ∨ k = e ∨ (k ≠ a ∧ k ≠ b ∧ k ≠ c ∧ k ≠ d ∧ k ≠ e) := by
  simp only [Decidable.or_iff_not_imp_left]
  exact fun h1 h2 h3 h4 h5 => ⟨h1, h2, h3, h4, h5⟩

end Ws
