/-
  The checking reader against the non-checking one (`strip`, Proofs/ReaderText) through NextFrame, Reader.Read, the
  ReadAll loop and Discard, for any OnIntermediate setting `o`: none, or a handler that does not look at the UTF-8
  fields and moves only the position inside the frame it is handed (`CbOk`), and for the text simulation never
  reports io.EOF on a control payload (`CbNe`). What NextFrame does to the reader is said once (`nextFrame_cases`:
  a data frame entered on a reader `Steady` to the old one, or none entered and such a reader left); the two
  invariants go through it: `Bin` (a message that is not text: the checking reader IS the non-checking one) and `TM`.
-/
import WsVerif.Proofs.NextFrame
import WsVerif.Proofs.Check
import WsVerif.Proofs.ReaderText
import WsVerif.Proofs.ReaderCb
namespace Ws.RdBin
open Ws Ws.Spec Ws.RdProof Ws.RdText Ws.RdCb Ws.NF Ws.FR

/-- `q` is `r` up to the position inside the current frame -/
def Keeps (r q : Rd) : Prop := q = { r with rawN := q.rawN, cpos := q.cpos }

theorem Keeps.refl (r : Rd) : Keeps r r := by cases r; rfl

theorem Keeps.trans {a b c : Rd} (h1 : Keeps a b) (h2 : Keeps b c) : Keeps a c := by
  unfold Keeps at *; rw [h2, h1]

theorem Keeps.off {r q : Rd} (h : Keeps r q) (hoff : r.utf8on = false) : q.utf8on = false := by rw [h]; exact hoff

theorem frameRead_strip_off (r : Rd) (s : Src) (k : Nat) (hoff : r.utf8on = false) :
    (strip r).frameRead s k = match r.frameRead s k with
      | none => none
      | some (p, n, e, q, s1) => some (p, n, e, strip q, s1) := by
  rw [frameRead_strip, frameRead_off r s k hoff]
  cases unmask r (r.rawRead s k).1 <;> rfl

theorem frameRead_keeps {r : Rd} {s : Src} {k : Nat} (hoff : r.utf8on = false)
    {p : Bytes} {n : Nat} {e : Option RErr} {q : Rd} {s1 : Src} (h : r.frameRead s k = some (p, n, e, q, s1)) :
    Keeps r q := by
  rw [frameRead_off r s k hoff] at h
  obtain ⟨_, _, heq⟩ := Option.map_eq_some_iff.mp h
  cases heq
  rfl

theorem pullFrame_off (k fuel : Nat) : ∀ (r : Rd) (s : Src) (cx : Ctx) (acc : List Bytes), r.utf8on = false →
    Rd.pull false k none fuel (strip r) s cx acc =
      ((Rd.pull false k none fuel r s cx acc).1, (Rd.pull false k none fuel r s cx acc).2.1,
       strip (Rd.pull false k none fuel r s cx acc).2.2.1, (Rd.pull false k none fuel r s cx acc).2.2.2.1,
       (Rd.pull false k none fuel r s cx acc).2.2.2.2)
    ∧ Keeps r (Rd.pull false k none fuel r s cx acc).2.2.1 := by
  induction fuel with
  | zero => intro r s cx acc _; exact ⟨rfl, Keeps.refl r⟩
  | succ n ih =>
    intro r s cx acc hoff
    rw [Rd.pull, Rd.pull]
    simp only [Bool.false_eq_true, if_false]
    rw [frameRead_strip_off r s k hoff]
    rcases hfr : r.frameRead s k with _ | ⟨p, m, e, q, s1⟩
    · exact ⟨rfl, Keeps.refl r⟩
    · have hk := frameRead_keeps hoff hfr
      simp only
      cases e with
      | some e => exact ⟨rfl, hk⟩
      | none =>
        obtain ⟨h1, h2⟩ := ih q s1 cx (if m = 0 then acc else List.take m p :: acc) (hk.off hoff)
        exact ⟨h1, hk.trans h2⟩

theorem pullFrame_strip (k fuel : Nat) : ∀ (r : Rd) (s : Src) (cx : Ctx) (acc : List Bytes), r.utf8on = false →
    Rd.pull false k none fuel (strip r) s cx acc =
      ((Rd.pull false k none fuel r s cx acc).1, (Rd.pull false k none fuel r s cx acc).2.1,
       strip (Rd.pull false k none fuel r s cx acc).2.2.1, (Rd.pull false k none fuel r s cx acc).2.2.2.1,
       (Rd.pull false k none fuel r s cx acc).2.2.2.2) :=
  fun r s cx acc hoff => (pullFrame_off k fuel r s cx acc hoff).1

/-- what the simulation asks of a handler: handed a frame stack with the validator out, it does not look at the
    UTF-8 fields and moves only the position inside the frame -/
structure CbOk (cb : Callback) : Prop where
  strip : ∀ (h : Header) (r : Rd) (s : Src) (cx : Ctx), r.utf8on = false →
    cb h (strip r) s cx = ⟨(cb h r s cx).err, RdText.strip (cb h r s cx).rd, (cb h r s cx).src, (cb h r s cx).ctx⟩
  keeps : ∀ (h : Header) (r : Rd) (s : Src) (cx : Ctx), r.utf8on = false → Keeps r (cb h r s cx).rd

/-- handed a control frame's payload, the handler never reports io.EOF (Read would pass it on as the end of the
    message) -/
def CbNe (cb : Callback) : Prop :=
  ∀ (h : Header) (r : Rd) (s : Src) (cx : Ctx), r.utf8on = false → r.rawN = h.len → (cb h r s cx).err ≠ some .eof

/-- what the simulation asks of the OnIntermediate handler, if one is installed -/
def Ok (o : Option Callback) : Prop := ∀ cb, o = some cb → CbOk cb
def Ne (o : Option Callback) : Prop := ∀ cb, o = some cb → CbNe cb

theorem ok_none : Ok none := fun _ h => by cases h
theorem ne_none : Ne none := fun _ h => by cases h
theorem ok_some {cb : Callback} (h : CbOk cb) : Ok (some cb) := fun _ e => by cases e; exact h
theorem ne_some {cb : Callback} (h : CbNe cb) : Ne (some cb) := fun _ e => by cases e; exact h

def onRd (f : Rd → Rd) (q : NF.Out) : NF.Out := (q.1, q.2.1, f q.2.2.1, q.2.2.2.1, q.2.2.2.2)

theorem strip_entered (r : Rd) (h : Header) : strip (entered r h) = entered (strip r) h := by
  unfold entered
  cases hf : r.fragmented <;> simp [strip, Rd.fragmented] at hf ⊢ <;> simp [hf]

/-- `q` is `r` up to the frame stack (and the extension's flag): NextFrame changes the other fields only by
    entering a data frame -/
def Steady (r q : Rd) : Prop :=
  q = { r with rawN := q.rawN, masked := q.masked, mask := q.mask, cpos := q.cpos, utf8on := q.utf8on,
               compressed := q.compressed }

theorem Steady.refl (r : Rd) : Steady r r := rfl

theorem Steady.trans {a b c : Rd} (h1 : Steady a b) (h2 : Steady b c) : Steady a c := by
  unfold Steady at *; rw [h2, h1]

theorem Keeps.steady {r q : Rd} (h : Keeps r q) : Steady r q := by
  unfold Steady; rw [h]

theorem steady_drain (r : Rd) (s : Src) (n : Nat) : Steady r (r.drainRaw s n).2.1 := by
  unfold Steady; rw [drainRaw_only_rawN]

theorem unsetBits_len (c : Bool) (h : Header) : (unsetBits c h).1.len = h.len := by
  unfold unsetBits
  simp only
  split
  · rfl
  · split <;> rfl

/-- The gate of the checking reader and of its `strip` side by side. The header `h` it lets through is `hdr` after
    UnsetBits, while the check was made on `hdr`: hence `r.ext = false →` in front of "`h` passes the check". -/
theorem gate_cases (r : Rd) (hdr : Header) :
    (∃ h e r', gate r hdr = .error (h, e, r') ∧ gate (strip r) hdr = .error (h, e, strip r') ∧ e ≠ .eof ∧ Steady r r')
    ∨ (∃ h c, gate r hdr = .ok (h, armed r hdr c) ∧ gate (strip r) hdr = .ok (h, strip (armed r hdr c))
        ∧ h.len = hdr.len ∧ (r.ext = false → (if r.skipCheck then none else checkHeader h r.state) = none)) := by
  -- `strip` leaves alone what the gate reads and commutes with what it sets
  have hrd : (strip r).skipCheck = r.skipCheck ∧ (strip r).state = r.state ∧ (strip r).maxFrame = r.maxFrame
      ∧ (strip r).ext = r.ext ∧ (strip r).compressed = r.compressed := ⟨rfl, rfl, rfl, rfl, rfl⟩
  have hset : ∀ c, refused (strip r) hdr c = strip (refused r hdr c) ∧ armed (strip r) hdr c = strip (armed r hdr c) :=
    fun _ => ⟨rfl, rfl⟩
  unfold gate
  simp only [hrd, hset]
  have hxl : (if r.ext = true then unsetBits r.compressed hdr else (hdr, none, r.compressed)).1.len = hdr.len := by
    split
    · exact unsetBits_len _ hdr
    · rfl
  have hxe : r.ext = false → (if r.ext = true then unsetBits r.compressed hdr else (hdr, none, r.compressed)).1 = hdr := by
    intro he; rw [he]; rfl
  generalize hck : (if r.skipCheck = true then none else checkHeader hdr r.state) = ck
  generalize (if r.ext = true then unsetBits r.compressed hdr else (hdr, none, r.compressed)) = x at hxl hxe
  cases ck with
  | some pe => exact Or.inl ⟨_, _, _, rfl, rfl, (fun h => by cases h), Steady.refl r⟩
  | none =>
    dsimp only
    split
    · exact Or.inl ⟨_, _, _, rfl, rfl, (fun h => by cases h), Steady.refl r⟩
    · obtain ⟨h2, xe, comp⟩ := x
      cases xe with
      | some pe => exact Or.inl ⟨_, _, _, rfl, rfl, (fun h => by cases h), rfl⟩
      | none => exact Or.inr ⟨h2, comp, rfl, rfl, hxl, fun he => by rw [show h2 = hdr from hxe he]; exact hck⟩

theorem ctl_cases {o : Option Callback} (ho : Ok o) (h : Header) (r : Rd) (s : Src) (cx : Ctx) (hoff : r.utf8on = false) :
    ctl o h (strip r) s cx = onRd strip (ctl o h r s cx) ∧ Steady r (ctl o h r s cx).2.2.1
    ∧ (Ne o → r.rawN = h.len → (ctl o h r s cx).2.1 ≠ some .eof) := by
  unfold ctl
  cases o with
  | none => exact ⟨by simp only [drainRaw_strip]; rfl, steady_drain r s _, fun _ _ => drainRaw_ne_eof r s _⟩
  | some cb =>
    have hk := ((ho cb rfl).keeps h r s cx hoff).steady
    have hn := fun (hne : Ne (some cb)) => hne cb rfl h r s cx hoff
    simp only [(ho cb rfl).strip h r s cx hoff]
    generalize cb h r s cx = res at hk hn ⊢
    obtain ⟨ce, crd, csrc, cctx⟩ := res
    cases ce with
    | some e => exact ⟨rfl, hk, fun hne hr => hn hne hr⟩
    | none => exact ⟨by simp only [drainRaw_strip]; rfl, hk.trans (steady_drain _ _ _), fun _ _ => drainRaw_ne_eof _ _ _⟩

theorem hdrErr_ne_eof {r : Rd} (hf : r.fragmented = true) (e : HdrErr) : hdrErr r e ≠ .eof := by
  cases e with
  | io f => cases f <;> simp [hdrErr, hf]
  | _ => simp [hdrErr]

/-- NextFrame, a `CbOk` handler installed or none, commutes with `strip`. Either it enters a data frame `h`, on a reader
    `Steady` to `r`; or it enters none (no header, a refusal, an intermediate control frame handled and drained) and
    leaves a reader `Steady` to `r`: without error only between the fragments of a message, and there, under `Ne`,
    never with io.EOF. -/
theorem nextFrame_cases {o : Option Callback} (ho : Ok o) (r : Rd) (s : Src) (cx : Ctx) :
    (strip r).nextFrame s cx o = onRd strip (r.nextFrame s cx o)
    ∧ ((∃ h r2, Steady r r2 ∧ (r.ext = false → (if r.skipCheck then none else checkHeader h r.state) = none)
          ∧ r.nextFrame s cx o = (some h, none, entered r2 h, (readHeaderUtil s).2, cx))
       ∨ (Steady r (r.nextFrame s cx o).2.2.1 ∧ ((r.nextFrame s cx o).2.1 = none → r.fragmented = true)
          ∧ (Ne o → r.fragmented = true → (r.nextFrame s cx o).2.1 ≠ some .eof))) := by
  simp only [nextFrame_eq]
  cases (readHeaderUtil s).1 with
  | error e =>
    exact ⟨rfl, Or.inr ⟨Steady.refl r, (fun h => by cases h), fun _ hf h => hdrErr_ne_eof hf e (Option.some.inj h)⟩⟩
  | ok hdr =>
    dsimp only
    unfold accept
    rcases gate_cases r hdr with ⟨h, e, r', hg, hgs, hne, hs⟩ | ⟨h, c, hg, hgs, hlen, hck⟩ <;> rw [hg, hgs] <;> dsimp only
    · exact ⟨rfl, Or.inr ⟨hs, (fun h => by cases h), fun _ _ h => hne (Option.some.inj h)⟩⟩
    · have hs : Steady r (armed r hdr c) := rfl
      rw [strip_fragmented]
      by_cases hc : ((armed r hdr c).fragmented && opIsControl h.op) = true
      · simp only [if_pos hc]
        obtain ⟨hcs, hs2, hn⟩ := ctl_cases ho h (armed r hdr c) (readHeaderUtil s).2 cx rfl
        exact ⟨hcs, Or.inr ⟨hs.trans hs2, fun _ => (Bool.and_eq_true_iff.mp hc).1, fun hne _ => hn hne hlen.symm⟩⟩
      · simp only [if_neg hc]
        exact ⟨by rw [← strip_entered]; rfl, Or.inl ⟨h, _, hs, hck, rfl⟩⟩

theorem nextFrame_strip_o {o : Option Callback} (ho : Ok o) (r : Rd) (s : Src) (cx : Ctx) :
    (strip r).nextFrame s cx o =
      ((r.nextFrame s cx o).1, (r.nextFrame s cx o).2.1, strip (r.nextFrame s cx o).2.2.1,
       (r.nextFrame s cx o).2.2.2.1, (r.nextFrame s cx o).2.2.2.2) :=
  (nextFrame_cases ho r s cx).1

theorem entered_eq {r r2 : Rd} (hs : Steady r r2) (h : Header) :
    entered r2 h = { enter r h with rawN := r2.rawN, masked := r2.masked, mask := r2.mask, cpos := r2.cpos,
                                    compressed := r2.compressed } := by
  rw [hs]
  unfold entered enter
  cases hf : r.fragmented <;> simp only [Rd.fragmented] at hf <;> simp [hf, Rd.fragmented]

/-- `nextFrame_cases` spelt out in fields: what NextFrame leaves alone, and what a data frame it enters sets -/
theorem nextFrame_fields_o {o : Option Callback} (ho : Ok o) (r : Rd) (s : Src) (cx : Ctx) :
    (r.nextFrame s cx o).2.2.1.skipCheck = r.skipCheck ∧ (r.nextFrame s cx o).2.2.1.ext = r.ext
    ∧ (r.nextFrame s cx o).2.2.1.checkUTF8 = r.checkUTF8 ∧ (r.nextFrame s cx o).2.2.1.utf8 = r.utf8
    ∧ (((r.nextFrame s cx o).2.2.1.hasFrame = r.hasFrame ∧ (r.nextFrame s cx o).2.2.1.opCode = r.opCode
          ∧ (r.nextFrame s cx o).2.2.1.state = r.state)
       ∨ ((r.nextFrame s cx o).2.1 = none ∧ (r.nextFrame s cx o).2.2.1.hasFrame = true
          ∧ ∃ h : Header, (r.nextFrame s cx o).2.2.1.utf8on = (r.checkUTF8 && (h.op == opText || (r.fragmented && r.opCode == opText)))
              ∧ (r.nextFrame s cx o).2.2.1.opCode = (if r.fragmented then r.opCode else h.op)
              ∧ (r.nextFrame s cx o).1 = some h
              ∧ (r.ext = false → (if r.skipCheck then none else checkHeader h r.state) = none)
              ∧ (r.nextFrame s cx o).2.2.1.state = (if h.fin then stClear r.state stFragmented else stSet r.state stFragmented))) := by
  rcases (nextFrame_cases ho r s cx).2 with ⟨h, r2, hs, hck, hN⟩ | ⟨hs, _, _⟩
  · rw [hN, entered_eq hs h]
    exact ⟨rfl, rfl, rfl, rfl, Or.inr ⟨rfl, rfl, h, rfl, rfl, rfl, hck, rfl⟩⟩
  · rw [hs]
    exact ⟨rfl, rfl, rfl, rfl, Or.inl ⟨rfl, rfl, rfl⟩⟩

theorem nextFrame_ne_eof_o {o : Option Callback} (ho : Ok o) (hne : Ne o) (r : Rd) (s : Src) (cx : Ctx)
    (hf : r.fragmented = true) : (r.nextFrame s cx o).2.1 ≠ some .eof := by
  rcases (nextFrame_cases ho r s cx).2 with ⟨h, r2, _, _, hN⟩ | ⟨_, _, hn⟩
  · rw [hN]; exact fun h => by cases h
  · exact hn hne hf

theorem discard_strip_o {o : Option Callback} (ho : Ok o) (n : Nat) (r : Rd) (s : Src) (cx : Ctx) :
    (strip r).discard s cx o n =
      ((r.discard s cx o n).1, strip (r.discard s cx o n).2.1, (r.discard s cx o n).2.2.1, (r.discard s cx o n).2.2.2) := by
  induction n generalizing r s cx with
  | zero => rfl
  | succ n ih =>
    unfold Rd.discard
    rw [drainRaw_strip]
    rcases hd : r.drainRaw s s.fuel with ⟨e, r1, s1⟩
    simp only
    cases e with
    | some e => rfl
    | none =>
      simp only [strip_fragmented]
      by_cases hf : r1.fragmented = true
      · simp only [hf, Bool.not_true, Bool.false_eq_true, if_false]
        rw [nextFrame_strip_o ho]
        rcases hx : r1.nextFrame s1 cx o with ⟨h, e2, r2, s2, cx2⟩
        simp only
        cases e2 with
        | some e => rfl
        | none => exact ih r2 s2 cx2
      · have hf' : r1.fragmented = false := by simpa using hf
        simp only [hf', Bool.not_false, if_true]
        rfl

def mapRd (f : Rd → Rd) : Option (Bytes × Nat × Option RErr × Rd × Src × Ctx) → Option (Bytes × Nat × Option RErr × Rd × Src × Ctx)
  | none => none
  | some (b, n, e, r, s, cx) => some (b, n, e, f r, s, cx)

/-- an open fragmented message refuses a text frame: the header check lets through only continuations and
    control frames -/
theorem frag_refuses_text (h : Header) (st : Nat) (hf : stIs st stFragmented = true) (hc : checkHeader h st = none) :
    h.op ≠ opText := by
  intro hop
  have := (checkHeader_none hc).2.2.2.2.2.2.1
  rw [hf, hop] at this
  cases this

/-- the checking reader inside a message that is not text. `skip` and `ext`: with SkipHeaderCheck, or an extension that
    rewrites the header, a TEXT frame could enter an open message and switch the validator on (`frag_refuses_text`). -/
structure Bin (r : Rd) : Prop where
  off : r.hasFrame = true → r.utf8on = false
  fresh : r.utf8 = {}
  op : r.opCode ≠ opText
  skip : r.skipCheck = false
  ext : r.ext = false
  frag : r.hasFrame = false → r.fragmented = true

/-- the validator is out of the frame stack and in its initial state, so the checking reader decides like the
    non-checking one -/
theorem tail_bin (r : Rd) (s : Src) (cx : Ctx) (k : Nat) (hb : Bin r) (hh : r.hasFrame = true) :
    tail (strip r) s cx k = mapRd strip (tail r s cx k)
    ∧ (∀ b n r' s' cx', tail r s cx k = some (b, n, none, r', s', cx') → Bin r') := by
  rw [tail_strip, tail_off r s cx k (hb.off hh) (Or.inr (by rw [hb.fresh]; rfl))]
  cases unmask r (r.rawRead s k).1 with
  | none => exact ⟨rfl, fun b n r' s' cx' h => by cases h⟩
  | some plain =>
    refine ⟨rfl, fun b n r' s' cx' h => ?_⟩
    simp only [Option.map_some, Option.some.injEq, Prod.mk.injEq] at h
    obtain ⟨_, _, he, rfl, _⟩ := h
    have hq : Bin (adv r (r.rawRead s k).1.length) :=
      ⟨fun _ => hb.off hh, hb.fresh, hb.op, hb.skip, hb.ext, fun h => absurd hh (by rw [show r.hasFrame = false from h]; decide)⟩
    rcases finish_none _ _ he with h1 | ⟨hf, h1⟩ <;> rw [h1]
    · exact hq
    · exact ⟨fun h => by simp [Rd.resetFragment] at h, hq.fresh, hq.op, hq.skip, hq.ext, fun _ => hf⟩

theorem Steady.bin {r r1 : Rd} (hs : Steady r r1) (hb : Bin r) (hh : r.hasFrame = false) : Bin r1 := by
  rw [hs]
  exact ⟨fun h => absurd (hh.symm.trans h) Bool.false_ne_true, hb.fresh, hb.op, hb.skip, hb.ext, fun _ => hb.frag hh⟩

theorem Steady.tm {σ : U8} {r r1 : Rd} (hs : Steady r r1) (htm : TM σ r) (hh : r.hasFrame = false) : TM σ r1 := by
  rw [hs]
  exact ⟨htm.chk, htm.st, htm.ok, fun h => absurd (hh.symm.trans h) Bool.false_ne_true, htm.op,
    Or.inr (htm.mid.resolve_left (by rw [hh]; decide))⟩

theorem bin_entered {r r2 : Rd} (hs : Steady r r2) (h : Header) (hfresh : r.utf8 = {}) (hskip : r.skipCheck = false)
    (hext : r.ext = false) (hnt : h.op ≠ opText) (hop : r.fragmented = true → r.opCode ≠ opText) : Bin (entered r2 h) := by
  rw [entered_eq hs h]
  refine ⟨fun _ => ?_, hfresh, ?_, hskip, hext, fun hx => by cases hx⟩
  · show (r.checkUTF8 && (h.op == opText || (r.fragmented && r.opCode == opText))) = false
    cases hf : r.fragmented
    · simp [hnt]
    · simp [hnt, hop hf]
  · show (if r.fragmented then r.opCode else h.op) ≠ opText
    cases hf : r.fragmented
    · exact hnt
    · exact hop hf

theorem tm_entered {σ : U8} {r r2 : Rd} (hs : Steady r r2) (h : Header) (hchk : r.checkUTF8 = true)
    (hst : r.utf8.state = u8Enc σ) (hok : σ ≠ .rej) (hfirst : r.fragmented = false → h.op = opText)
    (hop : r.fragmented = true → r.opCode = opText) : TM σ (entered r2 h) := by
  rw [entered_eq hs h]
  refine ⟨hchk, hst, hok, fun _ => ?_, fun _ => ?_, Or.inl rfl⟩
  · show (r.checkUTF8 && (h.op == opText || (r.fragmented && r.opCode == opText))) = true
    cases hf : r.fragmented
    · simp [hchk, hfirst hf]
    · simp [hchk, hop hf]
  · show (if r.fragmented then r.opCode else h.op) = opText
    cases hf : r.fragmented
    · exact hfirst hf
    · exact hop hf

/-- One Read inside a message, for `r` and `strip r` side by side: `tail` on the frame in hand; or NextFrame entered no
    frame (an error, or an intermediate control frame handled) and nothing is read; or NextFrame entered the next
    fragment `h` and `tail` runs on it. -/
theorem read_mid_o {o : Option Callback} (ho : Ok o) (r : Rd) (s : Src) (cx : Ctx) (k : Nat)
    (hmid : r.hasFrame = true ∨ r.fragmented = true) :
    (r.hasFrame = true ∧ r.read s cx k o = tail r s cx k ∧ (strip r).read s cx k o = tail (strip r) s cx k)
    ∨ (r.hasFrame = false ∧ ∃ e r1 s1 cx1, r.read s cx k o = some ([], 0, e, r1, s1, cx1)
        ∧ (strip r).read s cx k o = some ([], 0, e, strip r1, s1, cx1) ∧ Steady r r1 ∧ (Ne o → e ≠ some .eof))
    ∨ (r.hasFrame = false ∧ r.fragmented = true ∧ ∃ h r2 s1 cx1, Steady r r2
        ∧ (r.ext = false → (if r.skipCheck then none else checkHeader h r.state) = none)
        ∧ r.read s cx k o = tail (entered r2 h) s1 cx1 k
        ∧ (strip r).read s cx k o = tail (strip (entered r2 h)) s1 cx1 k) := by
  by_cases hh : r.hasFrame = true
  · exact Or.inl ⟨hh, read_has_cb r s cx k _ hh, read_has_cb (strip r) s cx k _ hh⟩
  · have hh' : r.hasFrame = false := by simpa using hh
    have hf : r.fragmented = true := hmid.resolve_left hh
    rw [read_next_cb r s cx k _ hh' hf, read_next_cb (strip r) s cx k _ hh' hf, nextFrame_strip_o ho]
    rcases (nextFrame_cases ho r s cx).2 with ⟨h, r2, hs, hck, hN⟩ | ⟨hs, _, hn⟩
    · rw [hN]
      exact Or.inr (Or.inr ⟨hh', hf, h, r2, _, cx, hs, hck, rfl, rfl⟩)
    · have h1 : (r.nextFrame s cx o).2.2.1.hasFrame = false := by rw [hs]; exact hh'
      rcases hN : r.nextFrame s cx o with ⟨hd, e1, r1, s1, cx1⟩
      rw [hN] at hs hn h1
      refine Or.inr (Or.inl ⟨hh', e1, r1, s1, cx1, ?_, ?_, hs, fun hne => hn hne hf⟩)
      · cases e1 with
        | some x => rfl
        | none => dsimp only; rw [if_pos h1]
      · cases e1 with
        | some x => rfl
        | none => dsimp only; rw [if_pos (show (strip r1).hasFrame = false from h1)]

/-- One Read of the checking reader inside a message that is not text: the same transport reads, bytes, count and
    error as the non-checking reader, and `Bin` again. -/
theorem read_bin_o {o : Option Callback} (ho : Ok o) (r : Rd) (s : Src) (cx : Ctx) (k : Nat) (hb : Bin r) :
    (strip r).read s cx k o = mapRd strip (r.read s cx k o)
    ∧ (∀ b n r' s' cx', r.read s cx k o = some (b, n, none, r', s', cx') → Bin r') := by
  have hmid : r.hasFrame = true ∨ r.fragmented = true := by
    cases hh : r.hasFrame
    · exact Or.inr (hb.frag hh)
    · exact Or.inl rfl
  rcases read_mid_o ho r s cx k hmid with ⟨hh, e1, e2⟩ | ⟨hh, e, r1, s1, cx1, e1, e2, hs, _⟩ |
      ⟨hh, hf, h, r2, s1, cx1, hs, hck, e1, e2⟩
  · rw [e1, e2]; exact tail_bin r s cx k hb hh
  · rw [e1, e2]
    refine ⟨rfl, fun b n r' s' cx' h => ?_⟩
    simp only [Option.some.injEq, Prod.mk.injEq] at h
    obtain ⟨_, _, _, rfl, _⟩ := h
    exact hs.bin hb hh
  · -- a continuation (the header check refuses a text frame inside an open message), so no validator
    rw [e1, e2]
    have hnt : h.op ≠ opText := frag_refuses_text h r.state hf (by simpa [hb.skip] using hck hb.ext)
    exact tail_bin _ s1 cx1 k (bin_entered hs h hb.fresh hb.skip hb.ext hnt fun _ => hb.op) rfl

/-- ReadAll over the checking reader inside a message that is not text is the loop over the non-checking one. -/
theorem pull_bin_o {o : Option Callback} (ho : Ok o) (k fuel : Nat) : ∀ (r : Rd) (s : Src) (cx : Ctx) (acc : List Bytes), Bin r →
    Rd.pull true k o fuel (strip r) s cx acc =
      ((Rd.pull true k o fuel r s cx acc).1, (Rd.pull true k o fuel r s cx acc).2.1,
       strip (Rd.pull true k o fuel r s cx acc).2.2.1, (Rd.pull true k o fuel r s cx acc).2.2.2.1,
       (Rd.pull true k o fuel r s cx acc).2.2.2.2) := by
  induction fuel with
  | zero => intro r s cx acc _; rfl
  | succ n ih =>
    intro r s cx acc hb
    obtain ⟨h1, h2⟩ := read_bin_o ho r s cx k hb
    rw [Rd.pull, Rd.pull]
    simp only [if_true]
    rw [h1]
    rcases hr : r.read s cx k o with _ | ⟨b, m, e, r', s', cx'⟩
    · rfl
    · simp only [mapRd]
      cases e with
      | some e => rfl
      | none => exact ih r' s' cx' _ (h2 b m r' s' cx' hr)

/-- One Read anywhere inside a text message, against the same Read of the non-checking reader: `SimOut`. -/
theorem read_sim_o {o : Option Callback} (ho : Ok o) (hne : Ne o) {σ : U8} {r : Rd} {s : Src} {cx : Ctx} {k : Nat} (htm : TM σ r)
    {bytes : Bytes} {n : Nat} {e : Option RErr} {q : Rd} {s' : Src} {cx' : Ctx}
    (h : (strip r).read s cx k o = some (bytes, n, e, q, s', cx')) (hwf : Bytes.WF bytes) :
    SimOut σ (r.read s cx k o) bytes n e q s' cx' := by
  rcases read_mid_o ho r s cx k htm.mid with ⟨hh, e1, e2⟩ | ⟨hh, e0, r1, s1, cx1, e1, e2, hs, hn⟩ |
      ⟨hh, hf, h0, r2, s1, cx1, hs, _, e1, e2⟩
  · rw [e2] at h; rw [e1]
    exact tail_sim htm hh h hwf
  · rw [e2] at h; rw [e1]
    simp only [Option.some.injEq, Prod.mk.injEq] at h
    obtain ⟨rfl, rfl, rfl, rfl, rfl, rfl⟩ := h
    exact ⟨rfl, Or.inl ⟨htm.ok, fun he => absurd he (hn hne), r1, rfl, rfl, fun _ => hs.tm htm hh⟩⟩
  · rw [e2] at h; rw [e1]
    have htm1 := tm_entered hs h0 htm.chk htm.st htm.ok (fun hx => by rw [hf] at hx; cases hx) htm.op
    exact tail_sim htm1 rfl h hwf

theorem read_strip_n_o {o : Option Callback} (ho : Ok o) {r : Rd} {s : Src} {cx : Ctx} {k : Nat}
    (hmid : r.hasFrame = true ∨ r.fragmented = true) {bytes : Bytes} {n : Nat} {e : Option RErr} {q : Rd}
    {s' : Src} {cx' : Ctx} (h : (strip r).read s cx k o = some (bytes, n, e, q, s', cx')) : n = bytes.length := by
  rcases read_mid_o ho r s cx k hmid with ⟨_, _, e2⟩ | ⟨_, e0, r1, s1, cx1, _, e2, _⟩ | ⟨_, _, h0, r2, s1, cx1, _, _, _, e2⟩
  · rw [e2] at h; exact tail_strip_n r h
  · rw [e2] at h
    simp only [Option.some.injEq, Prod.mk.injEq] at h
    obtain ⟨h1, h2, _⟩ := h; rw [← h1, ← h2]; rfl
  · rw [e2] at h; exact tail_strip_n _ h

/-- ReadAll over the checking reader inside a text message, against the same loop over the non-checking reader that
    ran to io.EOF: the same chunks and end when the text is well-formed from the position `σ` reached so far,
    ErrInvalidUTF8 otherwise. -/
theorem pull_sim_o {o : Option Callback} (ho : Ok o) (hne : Ne o) (k fuel : Nat) : ∀ (σ : U8) (r : Rd) (s : Src) (cx : Ctx) (chunks : List Bytes) (q : Rd) (s' : Src) (cx' : Ctx),
    TM σ r → Rd.pull true k o fuel (strip r) s cx [] = (chunks, .eof, q, s', cx') → Bytes.WF chunks.flatten →
    (u8Run σ chunks.flatten = .acc → ∃ r', Rd.pull true k o fuel r s cx [] = (chunks, .eof, r', s', cx'))
    ∧ (u8Run σ chunks.flatten ≠ .acc → (Rd.pull true k o fuel r s cx []).2.1 = .utf8) := by
  induction fuel with
  | zero => intro σ r s cx chunks q s' cx' _ h _; simp [Rd.pull] at h
  | succ n ih =>
    intro σ r s cx chunks q s' cx' htm h hwf
    rcases hrd : (strip r).read s cx k o with _ | ⟨b, m, e, q1, s1, cx1⟩
    · rw [Rd.pull] at h; simp [hrd] at h
    obtain rfl : m = b.length := read_strip_n_o ho htm.mid hrd
    rw [pull_round n hrd rfl] at h
    cases e with
    | some x =>
      -- the non-checking loop ends here: with io.EOF, this chunk being the last
      simp only [Prod.mk.injEq] at h
      obtain ⟨rfl, rfl, rfl, rfl, rfl⟩ := h
      rw [keep_flatten] at hwf ⊢
      obtain ⟨_, hsim⟩ := read_sim_o ho hne htm hrd hwf
      rcases hsim with ⟨_, a2, r', a3, _, _⟩ | ⟨a1, m', r', a3, _, _⟩
      · exact ⟨fun _ => ⟨r', pull_round n a3 rfl⟩, fun hna => absurd (a2 rfl) hna⟩
      · refine ⟨fun hacc => ?_, fun _ => pull_stop n a3⟩
        rcases a1 with a1 | ⟨_, a1⟩
        · rw [a1] at hacc; cases hacc
        · exact absurd hacc a1
    | none =>
      rcases hP : Rd.pull true k o n q1 s1 cx1 [] with ⟨pc, pe, pq, ps, pcx⟩
      rw [hP] at h
      simp only [Prod.mk.injEq] at h
      obtain ⟨rfl, rfl, rfl, rfl, rfl⟩ := h
      rw [List.flatten_append, keep_flatten] at hwf ⊢
      obtain ⟨hbwf, hpwf⟩ := Bytes.wf_append.mp hwf
      obtain ⟨_, hsim⟩ := read_sim_o ho hne htm hrd hbwf
      rw [u8Run_append]
      rcases hsim with ⟨_, _, r', a3, rfl, a5⟩ | ⟨a1, m', r', a3, _, _⟩
      · obtain ⟨i1, i2⟩ := ih (u8Run σ b) r' s1 cx1 pc pq ps pcx (a5 rfl) hP hpwf
        rw [pull_round n a3 rfl]
        exact ⟨fun hacc => (i1 hacc).imp fun r'' hr'' => by rw [hr''], i2⟩
      · refine ⟨fun hacc => ?_, fun _ => pull_stop n a3⟩
        rcases a1 with a1 | ⟨a1, _⟩
        · rw [a1, u8Run_rej] at hacc; cases hacc
        · exact absurd rfl a1

/-- outside a fragmented message a NextFrame that succeeds has entered a data frame: no handler runs -/
theorem enter_o {o : Option Callback} (ho : Ok o) (r : Rd) {s : Src} {cx : Ctx} {h : Header} {q1 : Rd} {s1 : Src} {cx1 : Ctx}
    (hN : (strip r).nextFrame s cx o = (some h, none, q1, s1, cx1)) (hnf : r.fragmented = false) :
    ∃ r2, Steady r r2 ∧ r.nextFrame s cx o = (some h, none, entered r2 h, s1, cx1) ∧ strip (entered r2 h) = q1 := by
  rw [nextFrame_strip_o ho] at hN
  rcases (nextFrame_cases ho r s cx).2 with ⟨h', r2, hs, _, hA⟩ | ⟨_, hfr, _⟩
  · rw [hA] at hN ⊢
    simp only [Prod.mk.injEq, Option.some.injEq] at hN
    obtain ⟨rfl, _, rfl, rfl, rfl⟩ := hN
    exact ⟨r2, hs, rfl, rfl⟩
  · rw [hfr (congrArg (fun q => q.2.1) hN)] at hnf; cases hnf

theorem enter_text {o : Option Callback} (ho : Ok o) (r : Rd) {s : Src} {cx : Ctx} {h : Header} {q1 : Rd} {s1 : Src} {cx1 : Ctx}
    (hN : (strip r).nextFrame s cx o = (some h, none, q1, s1, cx1)) (hnf : r.fragmented = false)
    (hchk : r.checkUTF8 = true) (hfresh : r.utf8.state = utf8Accept) (htext : h.op = opText) :
    ∃ r1, r.nextFrame s cx o = (some h, none, r1, s1, cx1) ∧ strip r1 = q1 ∧ TM .acc r1 := by
  obtain ⟨r2, hs, hA, hq⟩ := enter_o ho r hN hnf
  exact ⟨_, hA, hq, tm_entered hs h hchk hfresh (by decide) (fun _ => htext) (fun hx => by rw [hnf] at hx; cases hx)⟩

theorem enter_bin {o : Option Callback} (ho : Ok o) (r : Rd) {s : Src} {cx : Ctx} {h : Header} {q1 : Rd} {s1 : Src} {cx1 : Ctx}
    (hN : (strip r).nextFrame s cx o = (some h, none, q1, s1, cx1)) (hnf : r.fragmented = false)
    (hfresh : r.utf8 = {}) (hskip : r.skipCheck = false) (hext : r.ext = false) (hnt : h.op ≠ opText) :
    ∃ r1, r.nextFrame s cx o = (some h, none, r1, s1, cx1) ∧ strip r1 = q1 ∧ Bin r1 := by
  obtain ⟨r2, hs, hA, hq⟩ := enter_o ho r hN hnf
  exact ⟨_, hA, hq, bin_entered hs h hfresh hskip hext hnt (fun hx => by rw [hnf] at hx; cases hx)⟩

theorem readAll_bin_o {o : Option Callback} (ho : Ok o) {r : Rd} {s : Src} {cx : Ctx} (hb : Bin r)
    {out : Bytes} {e : Option RErr} {q : Rd} {s' : Src} {cx' : Ctx} (h : readAllRd (strip r) s cx o = (out, e, q, s', cx')) :
    ∃ r', readAllRd r s cx o = (out, e, r', s', cx') := by
  unfold readAllRd at h ⊢
  rw [pull_bin_o ho _ _ r s cx [] hb] at h
  rcases hP : Rd.pull true 512 o (pullFuel s) r s cx [] with ⟨chunks, e1, r', s1, cx1⟩
  rw [hP] at h
  simp only [Prod.mk.injEq] at h
  obtain ⟨rfl, rfl, _, rfl, rfl⟩ := h
  exact ⟨r', rfl⟩

theorem readAll_text_o {o : Option Callback} (ho : Ok o) (hne : Ne o) {r : Rd} {s : Src} {cx : Ctx} (htm : TM .acc r)
    {out : Bytes} {q : Rd} {s' : Src} {cx' : Ctx} (h : readAllRd (strip r) s cx o = (out, none, q, s', cx')) (hwf : Bytes.WF out) :
    (wfUtf8 out = true → ∃ r', readAllRd r s cx o = (out, none, r', s', cx'))
    ∧ (wfUtf8 out = false → (readAllRd r s cx o).2.1 = some .utf8) := by
  unfold readAllRd at h ⊢
  rcases hS : Rd.pull true 512 o (pullFuel s) (strip r) s cx [] with ⟨chunks, e, q1, sq, cxq⟩
  rw [hS] at h
  simp only [Prod.mk.injEq] at h
  obtain ⟨rfl, hc2, _, rfl, rfl⟩ := h
  have he : e = .eof := by
    by_cases h : e = .eof
    · exact h
    · simp [h] at hc2
  subst he
  obtain ⟨p1, p2⟩ := pull_sim_o ho hne _ (pullFuel s) .acc r s cx chunks q1 sq cxq htm hS hwf
  refine ⟨fun hgood => ?_, fun hbad => ?_⟩
  · obtain ⟨r', hp⟩ := p1 (by simpa [wfUtf8] using hgood)
    exact ⟨r', by rw [hp]; simp⟩
  · have hp := p2 (by intro h; simp [wfUtf8, h] at hbad)
    rcases hP : Rd.pull true 512 o (pullFuel s) r s cx [] with ⟨c2, e2, r2, s2, cx2⟩
    rw [hP] at hp
    simp only at hp
    subst hp
    simp

/-- the collecting handler does not look at the UTF-8 fields -/
theorem collect_strip (h : Header) (r : Rd) (s : Src) (cx : Ctx) (hoff : r.utf8on = false) :
    collect h (strip r) s cx =
      ⟨(collect h r s cx).err, strip (collect h r s cx).rd, (collect h r s cx).src, (collect h r s cx).ctx⟩ := by
  unfold collect
  rw [pullFrame_strip 512 (pullFuel s) r s cx [] hoff]
  rcases Rd.pull false 512 none (pullFuel s) r s cx [] with ⟨chunks, e, r', s', cx'⟩
  simp only
  split <;> rfl

theorem collect_ok : CbOk collect := by
  refine ⟨collect_strip, fun h r s cx hoff => ?_⟩
  unfold collect
  have hk := (pullFrame_off 512 (pullFuel s) r s cx [] hoff).2
  generalize Rd.pull false 512 none (pullFuel s) r s cx [] = P at hk ⊢
  dsimp only
  split <;> exact hk

theorem collect_ne : CbNe collect := by
  intro h r s cx _ _
  unfold collect
  dsimp only
  split
  · exact fun h => by cases h
  · next he => exact fun h => he (Option.some.inj h)

theorem ctlPull_off (h : Header) (r : Rd) (s : Src) (cx : Ctx) (hoff : r.utf8on = false) :
    ctlPull false none h (strip r) s cx =
      ((ctlPull false none h r s cx).1, (ctlPull false none h r s cx).2.1, strip (ctlPull false none h r s cx).2.2.1,
       (ctlPull false none h r s cx).2.2.2.1, (ctlPull false none h r s cx).2.2.2.2)
    ∧ Keeps r (ctlPull false none h r s cx).2.2.1 := by
  unfold ctlPull
  split
  · exact pullFrame_off 32768 (pullFuel s) r s cx [] hoff
  · exact ⟨rfl, Keeps.refl r⟩

/-- `wsutil.ControlFrameHandler` is a `CbOk` handler: it reads the control payload through the frame stack it is handed
    and otherwise deals with the destination only. -/
theorem ctlHandler_ok (client : Bool) (errText : ProtoErr → Bytes) : CbOk (controlFrameHandler client errText false none) := by
  constructor
  · intro h r s cx hoff
    rw [controlFrameHandler_eq, controlFrameHandler_eq, (ctlPull_off h r s cx hoff).1]
    rcases ctlPull false none h r s cx with ⟨chunks, e, r', s', cx'⟩
    dsimp only
    cases rdErrOf e with
    | none => rfl
    | some x => dsimp only; rcases handleControl client h (ctlSrc chunks e) false cx'.env errText with _ | ⟨er, env'⟩ <;> rfl
  · intro h r s cx hoff
    have hk := (ctlPull_off h r s cx hoff).2
    rw [controlFrameHandler_eq]
    generalize ctlPull false none h r s cx = P at hk ⊢
    obtain ⟨chunks, e, r', s', cx'⟩ := P
    dsimp only at hk ⊢
    cases rdErrOf e with
    | none => exact hk
    | some x => dsimp only; rcases handleControl client h (ctlSrc chunks e) false cx'.env errText with _ | ⟨er, env'⟩ <;> exact hk

-- The statements above for one handler setting each: the collecting handler, any callback, none.

theorem nextFrame_strip_collect (r : Rd) (s : Src) (cx : Ctx) :
    (strip r).nextFrame s cx (some collect) =
      ((r.nextFrame s cx (some collect)).1, (r.nextFrame s cx (some collect)).2.1, strip (r.nextFrame s cx (some collect)).2.2.1,
       (r.nextFrame s cx (some collect)).2.2.2.1, (r.nextFrame s cx (some collect)).2.2.2.2) :=
  nextFrame_strip_o (ok_some collect_ok) r s cx

theorem nextFrame_fields_collect2 (r : Rd) (s : Src) (cx : Ctx) :
    (r.nextFrame s cx (some collect)).2.2.1.skipCheck = r.skipCheck ∧ (r.nextFrame s cx (some collect)).2.2.1.ext = r.ext
    ∧ (r.nextFrame s cx (some collect)).2.2.1.checkUTF8 = r.checkUTF8 ∧ (r.nextFrame s cx (some collect)).2.2.1.utf8 = r.utf8
    ∧ (((r.nextFrame s cx (some collect)).2.2.1.hasFrame = r.hasFrame ∧ (r.nextFrame s cx (some collect)).2.2.1.opCode = r.opCode
          ∧ (r.nextFrame s cx (some collect)).2.2.1.state = r.state)
       ∨ ((r.nextFrame s cx (some collect)).2.1 = none ∧ (r.nextFrame s cx (some collect)).2.2.1.hasFrame = true
          ∧ ∃ h : Header, (r.nextFrame s cx (some collect)).2.2.1.utf8on = (r.checkUTF8 && (h.op == opText || (r.fragmented && r.opCode == opText)))
              ∧ (r.nextFrame s cx (some collect)).2.2.1.opCode = (if r.fragmented then r.opCode else h.op)
              ∧ (r.nextFrame s cx (some collect)).1 = some h
              ∧ (r.ext = false → (if r.skipCheck then none else checkHeader h r.state) = none)
              ∧ (r.nextFrame s cx (some collect)).2.2.1.state = (if h.fin then stClear r.state stFragmented else stSet r.state stFragmented))) :=
  nextFrame_fields_o (ok_some collect_ok) r s cx

theorem nextFrame_fields_collect (r : Rd) (s : Src) (cx : Ctx) :
    (r.nextFrame s cx (some collect)).2.2.1.checkUTF8 = r.checkUTF8 ∧ (r.nextFrame s cx (some collect)).2.2.1.utf8 = r.utf8
    ∧ (((r.nextFrame s cx (some collect)).2.2.1.hasFrame = r.hasFrame ∧ (r.nextFrame s cx (some collect)).2.2.1.opCode = r.opCode
          ∧ (r.nextFrame s cx (some collect)).2.2.1.state = r.state)
       ∨ ((r.nextFrame s cx (some collect)).2.1 = none ∧ (r.nextFrame s cx (some collect)).2.2.1.hasFrame = true
          ∧ ∃ h : Header, (r.nextFrame s cx (some collect)).2.2.1.utf8on = (r.checkUTF8 && (h.op == opText || (r.fragmented && r.opCode == opText)))
              ∧ (r.nextFrame s cx (some collect)).2.2.1.opCode = (if r.fragmented then r.opCode else h.op)
              ∧ (r.nextFrame s cx (some collect)).1 = some h)) :=
  let ⟨_, _, f1, f2, f3⟩ := nextFrame_fields_o (ok_some collect_ok) r s cx
  ⟨f1, f2, f3.imp id fun ⟨a, b, h, c, d, e, _⟩ => ⟨a, b, h, c, d, e⟩⟩

theorem nextFrame_ne_eof_collect (r : Rd) (s : Src) (cx : Ctx) (hf : r.fragmented = true) :
    (r.nextFrame s cx (some collect)).2.1 ≠ some .eof :=
  nextFrame_ne_eof_o (ok_some collect_ok) (ne_some collect_ne) r s cx hf

/-- One Read of the checking reader inside a message that is not text, the collecting handler installed: the same
    transport reads, bytes, count and error as the non-checking reader, and `Bin` again. -/
theorem read_bin (r : Rd) (s : Src) (cx : Ctx) (k : Nat) (hb : Bin r) :
    (strip r).read s cx k (some collect) = mapRd strip (r.read s cx k (some collect))
    ∧ (∀ b n r' s' cx', r.read s cx k (some collect) = some (b, n, none, r', s', cx') → Bin r') :=
  read_bin_o (ok_some collect_ok) r s cx k hb

/-- ReadAll as wsutil.ReadMessage runs it over the checking reader, inside a message that is not text, is the loop over
    the non-checking one. -/
theorem pull_bin (fuel : Nat) : ∀ (r : Rd) (s : Src) (cx : Ctx) (acc : List Bytes), Bin r →
    Rd.pull true 512 (some collect) fuel (strip r) s cx acc =
      ((Rd.pull true 512 (some collect) fuel r s cx acc).1, (Rd.pull true 512 (some collect) fuel r s cx acc).2.1,
       strip (Rd.pull true 512 (some collect) fuel r s cx acc).2.2.1, (Rd.pull true 512 (some collect) fuel r s cx acc).2.2.2.1,
       (Rd.pull true 512 (some collect) fuel r s cx acc).2.2.2.2) :=
  pull_bin_o (ok_some collect_ok) 512 fuel

theorem read_sim_collect (σ : U8) (r : Rd) (s : Src) (cx : Ctx) (k : Nat) (htm : TM σ r)
    (bytes : Bytes) (n : Nat) (e : Option RErr) (q : Rd) (s' : Src) (cx' : Ctx)
    (h : (strip r).read s cx k (some collect) = some (bytes, n, e, q, s', cx')) (hwf : Bytes.WF bytes) :
    SimOut σ (r.read s cx k (some collect)) bytes n e q s' cx' :=
  read_sim_o (ok_some collect_ok) (ne_some collect_ne) htm h hwf

/-- ReadAll as wsutil.ReadMessage runs it over the checking reader, inside a text message, against the same loop over
    the non-checking reader that ran to io.EOF: the same chunks and end when the text is well-formed from the position
    `σ` reached so far, ErrInvalidUTF8 otherwise. -/
theorem pull_sim (fuel : Nat) : ∀ (σ : U8) (r : Rd) (s : Src) (cx : Ctx) (chunks : List Bytes) (q : Rd) (s' : Src) (cx' : Ctx),
    TM σ r → Rd.pull true 512 (some collect) fuel (strip r) s cx [] = (chunks, .eof, q, s', cx') → Bytes.WF chunks.flatten →
    (u8Run σ chunks.flatten = .acc → ∃ r', Rd.pull true 512 (some collect) fuel r s cx [] = (chunks, .eof, r', s', cx'))
    ∧ (u8Run σ chunks.flatten ≠ .acc → (Rd.pull true 512 (some collect) fuel r s cx []).2.1 = .utf8) :=
  pull_sim_o (ok_some collect_ok) (ne_some collect_ne) 512 fuel

theorem read_sim_g (cb : Callback) (hcb : CbOk cb) (hne : CbNe cb) (σ : U8) (r : Rd) (s : Src) (cx : Ctx) (k : Nat) (htm : TM σ r)
    (bytes : Bytes) (n : Nat) (e : Option RErr) (q : Rd) (s' : Src) (cx' : Ctx)
    (h : (strip r).read s cx k (some cb) = some (bytes, n, e, q, s', cx')) (hwf : Bytes.WF bytes) :
    SimOut σ (r.read s cx k (some cb)) bytes n e q s' cx' :=
  read_sim_o (ok_some hcb) (ne_some hne) htm h hwf

theorem pull_sim_g (cb : Callback) (hcb : CbOk cb) (hne : CbNe cb) (fuel : Nat) : ∀ (σ : U8) (r : Rd) (s : Src) (cx : Ctx) (chunks : List Bytes) (q : Rd) (s' : Src) (cx' : Ctx),
    TM σ r → Rd.pull true 512 (some cb) fuel (strip r) s cx [] = (chunks, .eof, q, s', cx') → Bytes.WF chunks.flatten →
    (u8Run σ chunks.flatten = .acc → ∃ r', Rd.pull true 512 (some cb) fuel r s cx [] = (chunks, .eof, r', s', cx'))
    ∧ (u8Run σ chunks.flatten ≠ .acc → (Rd.pull true 512 (some cb) fuel r s cx []).2.1 = .utf8) :=
  pull_sim_o (ok_some hcb) (ne_some hne) 512 fuel

end Ws.RdBin

namespace Ws.RdText
open Ws Ws.Spec Ws.RdProof Ws.RdBin

/-- NextFrame (OnIntermediate unset) does not look at the UTF-8 fields except to decide whether the new frame goes
    through the validating reader. -/
theorem nextFrame_strip (r : Rd) (s : Src) (cx : Ctx) :
    (strip r).nextFrame s cx none =
      ((r.nextFrame s cx none).1, (r.nextFrame s cx none).2.1, strip (r.nextFrame s cx none).2.2.1,
       (r.nextFrame s cx none).2.2.2.1, (r.nextFrame s cx none).2.2.2.2) :=
  nextFrame_strip_o ok_none r s cx

/-- One Read anywhere inside a text message, OnIntermediate unset, against the same Read of the non-checking reader:
    `SimOut`. -/
theorem read_sim (σ : U8) (r : Rd) (s : Src) (cx : Ctx) (k : Nat) (htm : TM σ r)
    (bytes : Bytes) (n : Nat) (e : Option RErr) (q : Rd) (s' : Src) (cx' : Ctx)
    (h : (strip r).read s cx k none = some (bytes, n, e, q, s', cx')) (hwf : Bytes.WF bytes) :
    SimOut σ (r.read s cx k none) bytes n e q s' cx' :=
  read_sim_o ok_none ne_none htm h hwf

/-- Any sequence of Reads inside a text message, OnIntermediate unset, against what the non-checking reader delivers
    (`out`, ending `e`): either the checking reader delivers the same and ends the same, and then `out` stays inside
    Table 3-7 and an io.EOF comes between characters; or it stops with ErrInvalidUTF8, having handed out a prefix of
    `out`, and then `out` leaves Table 3-7 or the Reads ended (`e ≠ none`) inside a character. -/
theorem reads_sim (ks : List Nat) : ∀ (σ : U8) (r : Rd) (s : Src) (cx : Ctx), TM σ r →
    ∀ (out : Bytes) (e : Option RErr) (q : Rd) (s' : Src) (cx' : Ctx),
      reads (strip r) s cx ks = some (out, e, q, s', cx') → Bytes.WF out →
      (u8Run σ out ≠ .rej ∧ (e = some .eof → u8Run σ out = .acc)
        ∧ ∃ r', reads r s cx ks = some (out, e, r', s', cx') ∧ strip r' = q ∧ (e = none → TM (u8Run σ out) r'))
      ∨ ((u8Run σ out = .rej ∨ (e ≠ none ∧ u8Run σ out ≠ .acc))
        ∧ ∃ out' r' s'' cx'', reads r s cx ks = some (out', some .utf8, r', s'', cx'') ∧ ∃ more, out = out' ++ more) := by
  induction ks with
  | nil =>
    intro σ r s cx htm out e q s' cx' h _
    simp only [reads, Option.some.injEq, Prod.mk.injEq] at h
    obtain ⟨rfl, rfl, rfl, rfl, rfl⟩ := h
    exact Or.inl ⟨by simpa [u8Run] using htm.ok, (fun hh => by cases hh), r, rfl, rfl, fun _ => by simpa [u8Run] using htm⟩
  | cons k ks ih =>
    intro σ r s cx htm out e q s' cx' h hwf
    simp only [reads] at h ⊢
    rcases hrd : (strip r).read s cx k none with _ | ⟨bytes, n, e1, q1, s1, cx1⟩
    · rw [hrd] at h; simp at h
    rw [hrd] at h
    simp only at h
    have hn : n = bytes.length := read_strip_n_o ok_none htm.mid hrd
    subst hn
    rw [List.take_length] at h
    cases e1 with
    | some x =>
      simp only [Option.some.injEq, Prod.mk.injEq] at h
      obtain ⟨rfl, rfl, rfl, rfl, rfl⟩ := h
      obtain ⟨_, hsim⟩ := read_sim σ r s cx k htm bytes bytes.length (some x) q1 s1 cx1 hrd hwf
      rcases hsim with ⟨a1, a2, r', a3, a4, _⟩ | ⟨a1, m, r', a3, _, _⟩
      · left
        refine ⟨a1, a2, r', ?_, a4, (fun hh => by cases hh)⟩
        rw [a3]; simp
      · right
        refine ⟨a1, bytes.take m, r', s1, cx1, ?_, bytes.drop m, (List.take_append_drop m bytes).symm⟩
        rw [a3]
    | none =>
      simp only at h
      rcases hrs : reads q1 s1 cx1 ks with _ | ⟨o, e2, r2, s2, cx2⟩
      · rw [hrs] at h; simp at h
      rw [hrs] at h
      simp only [Option.some.injEq, Prod.mk.injEq] at h
      obtain ⟨rfl, rfl, rfl, rfl, rfl⟩ := h
      obtain ⟨_, hsim⟩ := read_sim σ r s cx k htm bytes bytes.length none q1 s1 cx1 hrd (Bytes.wf_append.mp hwf).1
      simp only [u8Run_append]
      rcases hsim with ⟨a1, _, r', a3, a4, a5⟩ | ⟨a1, m, r', a3, _, _⟩
      · -- this Read went the same way
        rw [← a4] at hrs
        rw [a3]
        simp only [List.take_length]
        rcases ih (u8Run σ bytes) r' s1 cx1 (a5 rfl) o e2 r2 s2 cx2 hrs (Bytes.wf_append.mp hwf).2 with
          ⟨b1, b2, r'', b3, b4, b5⟩ | ⟨b1, o', r'', s'', cx'', b3, more, b4⟩
        · exact Or.inl ⟨b1, b2, r'', by rw [b3], b4, b5⟩
        · exact Or.inr ⟨b1, bytes ++ o', r'', s'', cx'', by rw [b3], more, by rw [b4, List.append_assoc]⟩
      · -- ErrInvalidUTF8 in this Read
        rcases a1 with a1 | ⟨a1, _⟩
        · exact Or.inr ⟨Or.inl (by rw [a1, u8Run_rej]), bytes.take m, r', s1, cx1, by rw [a3],
            bytes.drop m ++ o, by rw [← List.append_assoc, List.take_append_drop]⟩
        · exact absurd rfl a1

end Ws.RdText
