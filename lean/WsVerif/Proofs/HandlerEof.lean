/-
  The control handler never reports io.EOF to the reader (`ctlHandler_ne`: the `CbNe` that carries the TEXT
  simulation of Proofs/ReaderSim over to wsutil.ControlFrameHandler).
  The reason: ws.Cipher maps a non-empty payload to a non-empty payload whenever it does not panic — without any
  well-formedness assumption on the bytes — so a control payload read to a clean end has delivered bytes, and
  HandleClose reports io.EOF only when it was given nothing of a payload it expected.
-/
import WsVerif.Proofs.ReaderSim
namespace Ws.RdBin
open Ws Ws.Spec Ws.RdProof Ws.RdText Ws.RdCb Ws.FR

theorem xorFrom_ne_nil (m : Mask) (s : Nat) (p : Bytes) (h : p ≠ []) : xorFrom m s p ≠ [] := by
  cases p with
  | nil => exact absurd rfl h
  | cons b bs => simp [xorFrom]

/-- ws.Cipher maps a non-empty payload to a non-empty payload (when it does not panic) -/
theorem cipher_ne_nil (p : Bytes) (m : Mask) (off : Nat) (q : Bytes) (h : cipher p m off = some q) (hp : p ≠ []) : q ≠ [] := by
  unfold cipher at h
  simp only at h
  by_cases h8 : p.length < 8
  · simp only [h8, if_true, Option.some.injEq] at h
    rw [← h]; exact xorFrom_ne_nil _ _ _ hp
  · simp only [h8, if_false] at h
    generalize hcnt : (p.length - remain (off % 4) - (p.length - remain (off % 4)) % 16) >>> 4 = cnt at h
    have hrem : remain (off % 4) ≤ 3 := by
      unfold remain; split <;> omega
    cases cnt with
    | zero =>
      simp only [wordLoop, Option.some.injEq] at h
      -- no whole 16-byte block behind the head: all of it, at least five bytes, is the tail
      have hz : (p.length - remain (off % 4) - (p.length - remain (off % 4)) % 16) / 16 = 0 := by
        rw [Nat.shiftRight_eq_div_pow] at hcnt; simpa using hcnt
      rw [← h]
      intro hnil
      have htail : xorFrom m (off % 4 + (p.length - (p.length - remain (off % 4)) % 16)) (p.drop (p.length - (p.length - remain (off % 4)) % 16)) = [] := by
        simp only [List.append_eq_nil_iff] at hnil; exact hnil.2
      have hdne : p.drop (p.length - (p.length - remain (off % 4)) % 16) ≠ [] := by
        intro hd
        have := congrArg List.length hd
        simp at this
        omega
      exact xorFrom_ne_nil _ _ _ hdne htail
    | succ c =>
      simp only [wordLoop] at h
      split at h
      · next mid hmid =>
        simp only [Option.some.injEq] at h
        have hmne : mid ≠ [] := by
          split at hmid
          · split at hmid
            · simp only [Option.some.injEq] at hmid; rw [← hmid]; simp [putLe64, putLe]
            · cases hmid
          · cases hmid
        rw [← h]; simp [hmne]
      · cases h

theorem cipher_nil (m : Mask) (off : Nat) : cipher [] m off = some [] := by
  simp [cipher, xorFrom]

theorem rawRead_shape (r : Rd) (s : Src) (k : Nat) :
    (r.rawN = 0 ∧ (r.rawRead s k).1 = [] ∧ (r.rawRead s k).2.1 = some .eof)
    ∨ (r.rawN ≠ 0 ∧ (r.rawRead s k).1.length ≤ r.rawN
        ∧ ((r.rawRead s k).2.1 = some .eof → r.rawN - (r.rawRead s k).1.length = 0)) := by
  by_cases h0 : r.rawN = 0
  · rw [rawRead_zero h0]; exact Or.inl ⟨h0, rfl, rfl⟩
  · rw [rawRead_pos h0]
    have hlen := src_read_len s (min k r.rawN)
    exact Or.inr ⟨h0, by dsimp only; omega, limErr_eof⟩

theorem rawErr_eof (e : Option RdErr) : rawErr e = some .eof ↔ e = some .eof := by
  cases e with
  | none => simp [rawErr]
  | some f => cases f <;> simp [rawErr]

/-- One read of the frame stack with the validator off: io.EOF comes with bytes, or from a frame that was already at
    its end; an empty read without error leaves the frame unfinished. -/
theorem frameRead_off_shape (r : Rd) (s : Src) (k : Nat) (hoff : r.utf8on = false)
    (bytes : Bytes) (n : Nat) (e : Option RErr) (r' : Rd) (s' : Src)
    (h : r.frameRead s k = some (bytes, n, e, r', s')) :
    n = bytes.length ∧ r'.utf8on = false
    ∧ ((r.rawN = 0 ∧ bytes = [] ∧ e = some .eof ∧ r'.rawN = 0)
       ∨ (r.rawN ≠ 0 ∧ (e = some .eof → bytes ≠ [] ∧ r'.rawN = 0) ∧ (e = none → bytes = [] → r'.rawN ≠ 0))) := by
  rw [frameRead_off r s k hoff] at h
  obtain ⟨_, hu, heq⟩ := Option.map_eq_some_iff.mp h
  cases heq
  -- the cipher layer hands on nothing exactly when it was handed nothing
  have hnil : bytes = [] ↔ (r.rawRead s k).1 = [] := by
    unfold unmask at hu
    split at hu
    · refine ⟨fun hp => ?_, fun hg => ?_⟩
      · by_cases hg : (r.rawRead s k).1 = []
        · exact hg
        · exact absurd hp (cipher_ne_nil _ _ _ _ hu hg)
      · rw [hg, cipher_nil] at hu; cases hu; rfl
    · cases hu; exact Iff.rfl
  refine ⟨rfl, hoff, ?_⟩
  rcases rawRead_shape r s k with ⟨h0, hg, he⟩ | ⟨h0, hle, he⟩
  · exact Or.inl ⟨h0, hnil.mpr hg, by rw [he]; rfl, by simp [adv, h0]⟩
  · refine Or.inr ⟨h0, fun hee => ?_, fun _ hb => ?_⟩
    · have hz := he ((rawErr_eof _).mp hee)
      refine ⟨fun hp => ?_, hz⟩
      rw [hnil.mp hp] at hz; simp at hz; exact h0 hz
    · show r.rawN - (r.rawRead s k).1.length ≠ 0
      rw [hnil.mp hb]; simpa using h0

/-- reading a frame (validator off) to its CLEAN end has delivered bytes, unless the frame was empty to begin with -/
theorem pull_eof_nonempty (k : Nat) (fuel : Nat) : ∀ (r : Rd) (s : Src) (cx : Ctx) (acc : List Bytes),
    r.utf8on = false → (r.rawN ≠ 0 ∨ ∃ c ∈ acc, c ≠ []) →
    (Rd.pull false k none fuel r s cx acc).2.1 = .eof → ∃ c ∈ (Rd.pull false k none fuel r s cx acc).1, c ≠ [] := by
  induction fuel with
  | zero => intro r s cx acc _ _ h; simp [Rd.pull] at h
  | succ n ih =>
    intro r s cx acc hoff hP h
    rw [Rd.pull] at h ⊢
    simp only [Bool.false_eq_true, if_false] at h ⊢
    rcases hfr : r.frameRead s k with _ | ⟨bytes, m, e, r', s'⟩
    · rw [hfr] at h; simp at h
    · rw [hfr] at h
      simp only at h ⊢
      obtain ⟨hm, hoff', hshape⟩ := frameRead_off_shape r s k hoff bytes m e r' s' hfr
      subst hm
      have htake : bytes.take bytes.length = bytes := List.take_length
      cases e with
      | some x =>
        simp only at h ⊢
        subst h
        rcases hshape with ⟨h0, hb, _, _⟩ | ⟨h0, he, _⟩
        · -- the frame was already at its end: something had been read before
          rcases hP with hP | ⟨c, hc, hne⟩
          · exact absurd h0 hP
          · refine ⟨c, ?_, hne⟩
            subst hb; simp [hc]
        · obtain ⟨hbne, _⟩ := he rfl
          have hl : bytes.length ≠ 0 := by intro hz; exact hbne (List.length_eq_zero_iff.mp hz)
          exact ⟨bytes, by simp [hl, htake], hbne⟩
      | none =>
        simp only at h ⊢
        apply ih r' s' cx _ hoff' _ h
        rcases hshape with ⟨_, _, he, _⟩ | ⟨h0, _, hn⟩
        · cases he
        · by_cases hb : bytes = []
          · left; exact hn rfl hb
          · right
            have hl : bytes.length ≠ 0 := by intro hz; exact hb (List.length_eq_zero_iff.mp hz)
            exact ⟨bytes, by simp [hl, htake], hb⟩

theorem endErr_ne_eof (src : CtlSrc) : src.endErr ≠ some .eof := by
  unfold CtlSrc.endErr
  cases src.fin <;> simp

theorem werrToC_ne_src (er : WErr) (x : RdErr) : werrToC er ≠ .src x := by
  cases er <;> simp [werrToC]

theorem handlePing_ne_src_eof (client : Bool) (h : Header) (src : CtlSrc) (e e' : Env) :
    handlePing client h src false e ≠ some (some (.src .eof), e') := by
  intro hh
  unfold handlePing at hh
  by_cases hz : h.len = 0
  · -- an empty ping is answered with a bare header: the only error is the destination's
    simp only [hz, if_true] at hh
    split at hh <;> simp at hh
  · -- otherwise every error is the writer's (`werrToC`) or the way the source ended (`endErr`)
    simp only [hz, if_false, Bool.false_eq_true] at hh
    rcases hbuf : newControlWriterBuffer client opPong (h.len + wHeaderSize client h.len) with _ | c
    · rw [hbuf] at hh; cases hh
    rw [hbuf] at hh; dsimp only at hh
    rcases hcopy : copyInto c e (if src.writerTo = true then [src.chunks.flatten] else src.chunks) with _ | ⟨_ | w, c', e1⟩
    · rw [hcopy] at hh; cases hh
    · rw [hcopy] at hh
      dsimp only at hh
      cases hend : src.endErr with
      | some re =>
        rw [hend] at hh
        cases hh
        exact endErr_ne_eof src hend
      | none =>
        rw [hend] at hh
        dsimp only at hh
        rcases hfl : c'.flush e1 with _ | ⟨_ | w, _, e2⟩
        · rw [hfl] at hh; cases hh
        · rw [hfl] at hh; cases hh
        · rw [hfl] at hh
          simp only [Option.map_some, Option.some.injEq, Prod.mk.injEq] at hh
          exact werrToC_ne_src w .eof hh.1
    · rw [hcopy] at hh
      simp only [Option.some.injEq, Prod.mk.injEq] at hh
      exact werrToC_ne_src w .eof hh.1

theorem handlePong_ne_src_eof (h : Header) (src : CtlSrc) (e e' : Env) :
    handlePong h src e ≠ some (some (.src .eof), e') := by
  intro hh
  unfold handlePong at hh
  split at hh
  · simp at hh
  · simp only [Option.some.injEq, Prod.mk.injEq] at hh
    cases he : src.endErr with
    | none => rw [he] at hh; simp at hh
    | some x =>
      rw [he] at hh; simp at hh
      exact endErr_ne_eof src (by rw [he, hh.1])

theorem handleClose_src_eof (client : Bool) (h : Header) (src : CtlSrc) (e e' : Env) (errText : ProtoErr → Bytes)
    (hh : handleClose client h src false e errText = some (some (.src .eof), e')) :
    h.len ≠ 0 ∧ src.bytes = [] ∧ src.ueofEnd = false ∧ src.endErr ≠ some .fail := by
  unfold handleClose at hh
  by_cases hz : h.len = 0
  · simp only [hz, if_true] at hh
    split at hh <;> simp at hh
  · refine ⟨hz, ?_⟩
    simp only [hz, if_false, Bool.false_eq_true] at hh
    by_cases hlt : src.bytes.length < h.len
    · -- io.ReadFull comes up short: it says io.EOF only if it got nothing and the source ended cleanly
      simp only [hlt, if_true, Option.some.injEq, Prod.mk.injEq, CErr.src.injEq] at hh
      obtain ⟨hre, _⟩ := hh
      split at hre
      · cases hre
      · next hnf =>
        by_cases hc : src.bytes.isEmpty = true ∧ ¬ src.ueofEnd = true
        · exact ⟨List.isEmpty_iff.mp hc.1, by simpa using hc.2, hnf⟩
        · rw [if_neg hc] at hre; cases hre
    · -- the payload is there: what can go wrong is a protocol error, the writer's error, or nothing (the close
      -- itself is reported), none of them the source's
      simp only [hlt, if_false] at hh
      exfalso
      split at hh
      · split at hh <;> cases hh
      · split at hh
        · cases hh
        · split at hh
          · cases hh
          · simp only [Option.some.injEq, Prod.mk.injEq] at hh
            exact werrToC_ne_src _ .eof hh.1
          · split at hh
            · cases hh
            · simp only [Option.some.injEq, Prod.mk.injEq] at hh
              exact werrToC_ne_src _ .eof hh.1
            · cases hh

theorem handleControl_src_eof (client : Bool) (h : Header) (src : CtlSrc) (e e' : Env) (errText : ProtoErr → Bytes)
    (hh : handleControl client h src false e errText = some (some (.src .eof), e')) :
    h.op = opClose ∧ h.len ≠ 0 ∧ src.bytes = [] ∧ src.ueofEnd = false ∧ src.endErr ≠ some .fail := by
  unfold handleControl at hh
  split at hh
  · exact absurd hh (handlePing_ne_src_eof client h src e e')
  · split at hh
    · exact absurd hh (handlePong_ne_src_eof h src e e')
    · split at hh
      · next hop => exact ⟨hop, handleClose_src_eof client h src e e' errText hh⟩
      · simp at hh

theorem cerrToR_eof (ce : CErr) (h : cerrToR ce = .eof) : ce = .src .eof := by
  cases ce with
  | src re => cases re <;> first | rfl | cases h
  | _ => cases h

/-- wsutil.ControlFrameHandler never reports io.EOF for a control frame whose announced payload it was handed
    (`rawN = Length`): a payload that ends early is io.ErrUnexpectedEOF or the transport's failure. -/
theorem ctlHandler_ne (client : Bool) (errText : ProtoErr → Bytes) : CbNe (controlFrameHandler client errText false none) := by
  intro h r s cx hoff hraw heq
  rw [controlFrameHandler_eq] at heq
  generalize hP : ctlPull false none h r s cx = P at heq
  obtain ⟨chunks, endE, r', s', cx'⟩ := P
  dsimp only at heq
  cases hre : rdErrOf endE with
  | none =>
    rw [hre] at heq
    cases Option.some.inj heq
    cases hre
  | some x =>
    rw [hre] at heq
    dsimp only at heq
    rcases hhc : handleControl client h (ctlSrc chunks endE) false cx'.env errText with _ | ⟨er, env'⟩
    · rw [hhc] at heq; cases heq
    · rw [hhc] at heq
      dsimp only at heq
      cases er with
      | none => cases heq
      | some ce =>
        cases cerrToR_eof ce (Option.some.inj heq)
        -- only HandleClose of an announced payload says so: the handler pulled it, it ended cleanly and nothing came
        obtain ⟨hop, hlen, hb, hu, hf⟩ := handleControl_src_eof client h _ cx'.env env' errText hhc
        unfold ctlPull at hP
        rw [if_pos ⟨hlen, Or.inr (Or.inr hop)⟩] at hP
        have hne := pull_eof_nonempty 32768 (pullFuel s) r s cx [] hoff (Or.inl (hraw ▸ hlen))
        rw [hP] at hne
        have hE : endE = .eof := by
          cases endE <;> simp [rdErrOf] at hre
          · rfl
          · simp [ctlSrc] at hu
          · simp [CtlSrc.endErr, ctlSrc] at hf
        obtain ⟨c, hc, hcne⟩ := hne hE
        exact hcne (List.flatten_eq_nil_iff.mp hb c hc)

end Ws.RdBin
