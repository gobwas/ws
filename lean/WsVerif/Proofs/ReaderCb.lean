/-
  The message reader with an OnIntermediate handler that reads the whole control payload and records
  it (what wsutil.ReadMessage installs; wsutil.ControlFrameHandler reads it the same way before it
  answers): the handler as an instance of `Handles`, with its log as the effect.
-/
import WsVerif.Proofs.Reader
namespace Ws.RdCb
open Ws Ws.Spec Ws.RdProof

/-- Draining a frame through the frame stack, read by read (io.Copy / ReadAll over the handler's
    reader): the chunks are the unmasked payload, the stack ends at the frame's end with io.EOF. -/
theorem pull_frame : ∀ (fuel : Nat) (r : Rd) (s : Src) (cx : Ctx) (wire rest : Bytes) (k : Nat) (acc : List Bytes),
    InFrame0 r s wire rest → 0 < k → mu s + 1 < fuel →
    ∃ chunks s', Rd.pull false k none fuel r s cx acc = (acc.reverse ++ chunks, .eof, adv r wire.length, s', cx)
      ∧ chunks.flatten = plainOf r wire ∧ s'.bytes = rest ∧ Src.Tame s' ∧ mu s' ≤ mu s := by
  intro fuel
  induction fuel with
  | zero => intro r s cx wire rest k acc _ _ h; omega
  | succ n ih =>
    intro r s cx wire rest k acc hin hk hf
    unfold Rd.pull
    simp only [Bool.false_eq_true, if_false]
    by_cases hz : wire.length = 0
    · have hw : wire = [] := List.length_eq_zero_iff.mp hz
      subst hw
      have h0 : r.rawN = 0 := by rw [hin.n]; rfl
      rw [frameRead_done r s k h0 hin.noU hin.mwf]
      simp only [if_true]
      refine ⟨[], s, by simp [adv_zero], (plainOf_nil r).symm, by simpa using hin.bytes, hin.tame, Nat.le_refl _⟩
    · obtain ⟨g, e, s1, hfr, hg, hb1, hmu1, ht1, hlt, hee⟩ :=
        frameRead_inframe0 r s wire rest k hin hk (Nat.pos_of_ne_zero hz)
      rw [hfr]
      simp only
      -- what the loop keeps of this read: the `g` bytes handed out, unless there are none
      have hacc : (if g = 0 then acc else (plainOf r (wire.take g)).take g :: acc).reverse
          = acc.reverse ++ RdBin.keep (plainOf r (wire.take g)) := by
        have hl : (plainOf r (wire.take g)).length = g := by rw [plainOf_length, List.length_take]; omega
        unfold RdBin.keep
        rw [hl]
        split
        · simp
        · rw [List.take_of_length_le (Nat.le_of_eq hl), List.reverse_cons]
      rcases hee with rfl | rfl
      · simp only
        obtain ⟨chunks, s', h1, h2, h3, h4, h5⟩ := ih (adv r g) s1 cx (wire.drop g) rest k _ (hin.advance g hb1 ht1) hk (by omega)
        rw [h1, hacc, List.append_assoc, adv_adv, List.length_drop, show g + (wire.length - g) = wire.length by omega]
        exact ⟨_, s', rfl, by rw [List.flatten_append, RdBin.keep_flatten, h2, plainOf_split r wire g hg], h3, h4, by omega⟩
      · simp only
        -- io.EOF comes with the last byte of the frame
        have hgl : g = wire.length := Nat.le_antisymm hg (Nat.not_lt.mp fun h => nomatch hlt h)
        subst hgl
        rw [hacc]
        exact ⟨_, s1, rfl, by rw [RdBin.keep_flatten, List.take_length], by rw [hb1]; simp, ht1, by omega⟩

theorem pullFrame_fin (k fuel : Nat) : ∀ (r : Rd) (s : Src) (cx : Ctx) (acc : List Bytes),
    (Rd.pull false k none fuel r s cx acc).2.2.2.1.fin = s.fin := by
  induction fuel with
  | zero => intro r s cx acc; rfl
  | succ n ih =>
    intro r s cx acc
    unfold Rd.pull
    simp only [Bool.false_eq_true, if_false]
    cases hfr : r.frameRead s k with
    | none => rfl
    | some x =>
      obtain ⟨b, m, e, r', s'⟩ := x
      have hf := frameRead_fin hfr
      cases e with
      | some e => exact hf
      | none => dsimp only; rw [ih]; exact hf

/-- `pull_frame` as a handler runs it: from nothing read yet, on `pullFuel` -/
theorem pull_payload (r : Rd) (s : Src) (cx : Ctx) {wire rest : Bytes} {k : Nat} (hin : InFrame0 r s wire rest) (hk : 0 < k) :
    ∃ chunks s', Rd.pull false k none (pullFuel s) r s cx [] = (chunks, .eof, adv r wire.length, s', cx)
      ∧ chunks.flatten = plainOf r wire ∧ s'.bytes = rest ∧ Src.Tame s' ∧ s'.fin = s.fin ∧ mu s' ≤ mu s := by
  obtain ⟨chunks, s', hp, hfl, hb', ht', hmu'⟩ := pull_frame (pullFuel s) r s cx wire rest k [] hin hk
    (pullFuel_gt s)
  have hf := pullFrame_fin k (pullFuel s) r s cx []
  rw [hp] at hf
  exact ⟨chunks, s', hp, hfl, hb', ht', hf, hmu'⟩

/-- the OnIntermediate handler wsutil.ReadMessage installs: read the control payload to its end, append
    (opcode, payload) to the message list. It is `Ws.collectCb` of Model/Helper, which `readMessage` names
    (`C04.collectCb_eq`, by rfl). -/
def collect : Callback := fun h r s cx =>
  let (chunks, e, r', s', cx') := Rd.pull false 512 none (pullFuel s) r s cx []
  if e = .eof then ⟨none, r', s', { cx' with msgs := cx'.msgs ++ [(h.op, chunks.flatten)] }⟩
  else ⟨some e, r', s', cx'⟩

def logMsg (h : Header) (p : Bytes) (cx : Ctx) : Ctx := { cx with msgs := cx.msgs ++ [(h.op, p)] }

/-- what the handler will have logged once the frames `fs` have gone by -/
def ctlLog : List WFrame → Ctx → Ctx
  | [], cx => cx
  | f :: fs, cx => ctlLog fs (if opIsControl f.h.op then logMsg f.h f.plain cx else cx)

theorem ctlLog_append (pre fs : List WFrame) (cx : Ctx) : ctlLog (pre ++ fs) cx = ctlLog fs (ctlLog pre cx) := by
  induction pre generalizing cx with
  | nil => rfl
  | cons f pre ih => simp only [List.cons_append, ctlLog]; exact ih _

def collecting : CtlSpec := ⟨fun _ => True, fun _ => True, fun f cx cx' => cx' = logMsg f.h f.plain cx⟩

theorem collect_reads (f : WFrame) (r : Rd) (s : Src) (cx : Ctx) (tail : Bytes) (hin : InFrame0 r s f.wire tail)
    (hpl : plainOf r f.wire = f.plain) :
    ∃ s', collect f.h r s cx = ⟨none, adv r f.wire.length, s', logMsg f.h f.plain cx⟩ ∧ s'.bytes = tail ∧ Src.Tame s'
      ∧ s'.fin = s.fin ∧ mu s' ≤ mu s := by
  obtain ⟨chunks, s2, hp, hfl, hb2, ht2, hf2, hmu2⟩ := pull_payload r s cx (k := 512) hin (by decide)
  refine ⟨s2, ?_, hb2, ht2, hf2, hmu2⟩
  simp only [collect, hp, if_true, hfl, hpl, logMsg]

theorem handles_collect : Handles (some collect) collecting := by
  refine handles_of_reads collect collecting ?_
  intro f r s cx tail _ _ _ _ hin
  obtain ⟨s2, hres, hb2, ht2, hf2, hmu2⟩ := collect_reads f _ s cx tail hin rfl
  exact ⟨f.wire.length, s2, _, hres, by simpa using hb2, ht2, hf2, hmu2, trivial, rfl⟩

theorem run_collect {pre : List WFrame} {cx cx' : Ctx} (h : Run collecting.eff pre cx cx') : cx' = ctlLog pre cx := by
  induction h with
  | nil _ => rfl
  | data _ _ _ _ hd _ ih => simp [ctlLog, hd, ih]
  | ctl _ _ _ _ _ hc he _ ih => rw [ih]; simp only [ctlLog, hc, if_true]; rw [he]

/-- NextFrame on an interleaved control frame with the collecting handler: the handler is given
    exactly the frame's unmasked payload, the reader stands behind the frame. -/
theorem nextFrame_ctl_collect (r : Rd) (s s1 : Src) (cx : Ctx) (f : WFrame) (tail : Bytes)
    (hh : readHeaderUtil s = (.ok f.h, s1)) (ha : Accepts r f.h) (hext : r.ext = false)
    (hctl : opIsControl f.h.op = true) (hfrag : r.fragmented = true)
    (hb : s1.bytes = f.wire ++ tail) (hok : f.OK) (hwf : Bytes.WF s1.bytes) (htame : Src.Tame s1) :
    ∃ s3, r.nextFrame s cx (some collect) = (some f.h, none, afterCtl r f.h f.wire.length, s3, logMsg f.h f.plain cx)
      ∧ s3.bytes = tail ∧ Src.Tame s3 ∧ mu s3 ≤ mu s1 := by
  obtain ⟨s2, hres, hb2, ht2, _, hmu2⟩ := collect_reads f (NF.armed r f.h r.compressed) s1 cx tail
    ⟨rfl, hb, hok.len.symm, hwf, hok.mwf, htame⟩ rfl
  obtain ⟨s3, hd, hb3, ht3, _, hmu3⟩ := drain_frame (adv (NF.armed r f.h r.compressed) f.wire.length) s2 (wire := [])
    (by simpa using hb2) (by simp [adv, NF.armed, hok.len]) ht2
  refine ⟨s3, ?_, hb3, ht3, by omega⟩
  rw [nextFrame_ctl_eq r s s1 cx (some collect) f.h hh ha hext hctl hfrag]
  simp only [NF.ctl, hres, hd, afterCtl_eq]

/-- One Reader.Read anywhere inside a message, OnIntermediate = the collecting handler: as
    `RdProof.step`, and every interleaved control frame gone by has been handed to the handler with its
    exact unmasked payload, in stream order: the handler's log after this Read plus what it will still
    log for the remaining frames is what it would log for all the frames that were remaining before. -/
theorem step_cb (ao skip : Bool) (st maxF : Nat) (rest : Bytes) (r : Rd) (s : Src) (cx : Ctx) (k : Nat) (hk : 0 < k)
    (rem : Bytes) (fs0 : List WFrame) (hs : Sync ao skip st maxF rest r s rem fs0) :
    (∃ bytes e r' s' cx', r.read s cx k (some collect) = some (bytes, bytes.length, e, r', s', cx') ∧
      ((e = none ∧ ∃ rem' fs', rem = bytes ++ rem' ∧ Sync ao skip st maxF rest r' s' rem' fs' ∧ weight r' s' < weight r s
            ∧ ctlLog fs' cx' = ctlLog fs0 cx)
       ∨ (e = some .eof ∧ rem = bytes ∧ s'.bytes = rest ∧ Src.Tame s' ∧ Done st r r' ∧ cx' = ctlLog fs0 cx)))
    ∨ AtEnd ao skip st maxF rest r s rem := by
  rcases step_g handles_collect cx hk hs trivial (fun _ _ _ => trivial) with
    ⟨b, e, r', s', cx', pre, fs', hrd, _, hfs, hrun, hcase⟩ | ⟨hend, _⟩
  · have hlog : ctlLog fs' cx' = ctlLog fs0 cx := by rw [hfs, ctlLog_append, run_collect hrun]
    refine Or.inl ⟨b, e, r', s', cx', hrd, ?_⟩
    rcases hcase with ⟨he, rem', g1, g2, g3⟩ | ⟨he, g1, g2, g3, g4, g5⟩
    · exact Or.inl ⟨he, rem', fs', g1, g2, g3, hlog⟩
    · subst g5; exact Or.inr ⟨he, g1, g2, g3, g4, hlog⟩
  · exact Or.inr hend

/-- Any sequence of Reads inside a closed message with the collecting handler installed: as `RdProof.reads_sync`
    without the open end, the handler's log as in `step_cb`. -/
theorem reads_cb (skip : Bool) (st maxF : Nat) (rest : Bytes) (ks : List Nat) (hpos : ∀ k ∈ ks, 0 < k)
    (r : Rd) (s : Src) (cx : Ctx) (rem : Bytes) (fs0 : List WFrame) (hs : Sync false skip st maxF rest r s rem fs0) :
    ∃ out e r' s' cx', readsCb (some collect) r s cx ks = some (out, e, r', s', cx') ∧
      ((e = none ∧ ∃ rem' fs', rem = out ++ rem' ∧ Sync false skip st maxF rest r' s' rem' fs'
            ∧ weight r' s' + ks.length ≤ weight r s ∧ ctlLog fs' cx' = ctlLog fs0 cx)
       ∨ (e = some .eof ∧ rem = out ∧ s'.bytes = rest ∧ Src.Tame s' ∧ Done st r r' ∧ cx' = ctlLog fs0 cx)) := by
  rcases reads_g handles_collect hpos cx hs trivial (fun _ _ _ => trivial) with
    ⟨o, e, r', s', cx', pre, fs', hrd, _, hfs, hrun, hcase⟩ | ⟨_, _, _, _, _, _, _, _, _, _, hend, _⟩
  · have hlog : ctlLog fs' cx' = ctlLog fs0 cx := by rw [hfs, ctlLog_append, run_collect hrun]
    refine ⟨o, e, r', s', cx', hrd, ?_⟩
    rcases hcase with ⟨he, rem', g1, g2, g3⟩ | ⟨he, g1, g2, g3, g4, g5⟩
    · exact Or.inl ⟨he, rem', fs', g1, g2, g3, hlog⟩
    · subst g5; exact Or.inr ⟨he, g1, g2, g3, g4, hlog⟩
  · exact absurd hend.opn (by decide)

end Ws.RdCb
