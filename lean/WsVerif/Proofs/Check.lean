/- Lemmas for C03: `checkHeader` is the search for the first broken rule of `Spec.allRules`, and what
   `checkCloseFrameData` lets through. -/
import WsVerif.Model.Check
import WsVerif.Spec.Check
namespace Ws
open Ws.Spec

theorem st_bits : ∀ s < 256,
    stIs s stServer = (stOf s).server ∧ stIs s stClient = (stOf s).client
      ∧ stIs s stExtended = (stOf s).extended ∧ stIs s stFragmented = (stOf s).fragmented := by
  decide +kernel

theorem stClear_not_set (s : Nat) : stIs (stClear s stFragmented) stFragmented = false := by
  simp [stIs, stClear, stFragmented, Nat.and_assoc]

/-- The fragmented bit of the state word, set and cleared: what the reader proofs use of the bit arithmetic. -/
theorem stbits : ∀ s < 256,
    stIs (stSet s stFragmented) stFragmented = true
    ∧ stSet (stSet s stFragmented) stFragmented = stSet s stFragmented
    ∧ stIs (stClear (stSet s stFragmented) stFragmented) stFragmented = false
    ∧ (stIs s stFragmented = false → stClear (stSet s stFragmented) stFragmented = s ∧ stClear s stFragmented = s) := by
  decide +kernel

theorem stClear_unset (s : Nat) (h : s < 256) (hnf : stIs s stFragmented = false) : stClear s stFragmented = s :=
  ((stbits s h).2.2.2 hnf).2

theorem op_ctl {c : Nat} (h : c < 16) : opIsControl c = decide (8 ≤ c) ∧ opIsData c = decide (c < 8) :=
  (by decide : ∀ c < 16, opIsControl c = decide (8 ≤ c) ∧ opIsData c = decide (c < 8)) c h

/-- Which RFC rule each reported error names. -/
def ruleOf : ProtoErr → Option Rule
  | .opCodeReserved => some .reservedOpcode
  | .controlPayloadOverflow => some .controlTooLong
  | .controlNotFinal => some .controlNotFinal
  | .nonZeroRsv => some .rsvWithoutExtension
  | .maskRequired => some .serverGotUnmasked
  | .maskUnexpected => some .clientGotMasked
  | .continuationExpected => some .dataWhileFragmented
  | .continuationUnexpected => some .continuationWhileIdle
  | _ => none

/-- The error `checkHeader` answers with when a rule is the first one broken. -/
def errOf : Rule → ProtoErr
  | .reservedOpcode => .opCodeReserved
  | .controlTooLong => .controlPayloadOverflow
  | .controlNotFinal => .controlNotFinal
  | .rsvWithoutExtension => .nonZeroRsv
  | .serverGotUnmasked => .maskRequired
  | .clientGotMasked => .maskUnexpected
  | .dataWhileFragmented => .continuationExpected
  | .continuationWhileIdle => .continuationUnexpected

theorem ruleOf_errOf (r : Rule) : ruleOf (errOf r) = some r := by cases r <;> rfl

theorem map_find?_cons {α β : Type} (f : α → β) (p : α → Bool) (a : α) (as : List α) :
    ((a :: as).find? p).map f = if p a then some (f a) else (as.find? p).map f := by
  rw [List.find?_cons]; cases p a <;> rfl

theorem checkHeader_eq_find (h : Header) (s : Nat) (hop : h.op < 16) (hs : s < 256) :
    checkHeader h s = (allRules.find? fun r => decide (Broken r h (stOf s))).map errOf := by
  obtain ⟨b1, b2, b3, b4⟩ := st_bits s hs
  obtain ⟨c1, -⟩ := op_ctl hop
  have e1 : opIsReserved h.op = decide (Broken .reservedOpcode h (stOf s)) := by
    rw [Bool.eq_iff_iff, decide_eq_true_eq]; simp [Broken, isReserved, opIsReserved]
  have e2 : (opIsControl h.op && decide (h.len > 125)) = decide (Broken .controlTooLong h (stOf s)) := by
    rw [Bool.eq_iff_iff, decide_eq_true_eq]; simp [Broken, isControl, c1]
  have e3 : (opIsControl h.op && !h.fin) = decide (Broken .controlNotFinal h (stOf s)) := by
    rw [Bool.eq_iff_iff, decide_eq_true_eq]; simp [Broken, isControl, c1]
  have e4 : (h.rsv != 0 && !stIs s stExtended) = decide (Broken .rsvWithoutExtension h (stOf s)) := by
    rw [Bool.eq_iff_iff, decide_eq_true_eq]; simp [Broken, b3]
  have e5 : (stIs s stServer && !h.masked) = decide (Broken .serverGotUnmasked h (stOf s)) := by
    rw [Bool.eq_iff_iff, decide_eq_true_eq]; simp [Broken, b1]
  have e6 : (stIs s stClient && h.masked) = decide (Broken .clientGotMasked h (stOf s)) := by
    rw [Bool.eq_iff_iff, decide_eq_true_eq]; simp [Broken, b2]
  have e7 : (stIs s stFragmented && !opIsControl h.op && h.op != opContinuation)
      = decide (Broken .dataWhileFragmented h (stOf s)) := by
    rw [Bool.eq_iff_iff, decide_eq_true_eq]; simp [Broken, isControl, b4, c1, opContinuation, Bool.and_assoc]
  have e8 : (!stIs s stFragmented && h.op == opContinuation)
      = decide (Broken .continuationWhileIdle h (stOf s)) := by
    rw [Bool.eq_iff_iff, decide_eq_true_eq]; simp [Broken, b4, opContinuation]
  simp only [checkHeader, e1, e2, e3, e4, e5, e6, e7, e8, allRules, map_find?_cons, List.find?_nil,
    Option.map_none, errOf]

theorem mem_allRules (r : Rule) : r ∈ allRules := by cases r <;> simp [allRules]

/-- The codes of §7.4 that are defined and may be sent, everything from 3000 up, and only with a
    valid UTF-8 reason. -/
theorem checkClose_none_iff (c : Nat) (reason : Bytes) :
    checkCloseFrameData c reason = none ↔
      ((1000 ≤ c ∧ c ≤ 1003) ∨ (1007 ≤ c ∧ c ≤ 1011) ∨ 3000 ≤ c) ∧ wfUtf8 reason = true := by
  simp only [checkCloseFrameData, checkCloseWith, ite_some_eq_none, codeIsNotUsed, codeIsProtocolReserved,
    codeIsProtocolSpec, codeIsProtocolDefined, codeIn, Bool.and_eq_true, Bool.or_eq_true, Bool.not_eq_true',
    decide_eq_true_eq, beq_iff_eq, Bool.or_eq_false_iff, beq_eq_false_iff_ne, and_true]
  cases wfUtf8 reason
  · simp
  · simp only [reduceCtorEq, not_false_eq_true, and_true]
    omega

theorem checkHeader_none {h : Header} {st : Nat} (hc : checkHeader h st = none) :
    opIsReserved h.op = false ∧ (opIsControl h.op && decide (h.len > 125)) = false ∧ (opIsControl h.op && !h.fin) = false
    ∧ (h.rsv != 0 && !stIs st stExtended) = false ∧ (stIs st stServer && !h.masked) = false
    ∧ (stIs st stClient && h.masked) = false
    ∧ (stIs st stFragmented && !opIsControl h.op && h.op != opContinuation) = false
    ∧ (!stIs st stFragmented && h.op == opContinuation) = false := by
  simpa only [checkHeader, ite_some_eq_none, Bool.not_eq_true, and_true] using hc

theorem ctl_accepted (h : Header) (st : Nat) (hc : opIsControl h.op = true) (hacc : checkHeader h st = none) :
    h.fin = true ∧ h.len ≤ 125 := by
  obtain ⟨_, h1, h2, _⟩ := checkHeader_none hacc
  rw [hc] at h1 h2
  exact ⟨by simpa using h2, by simpa using h1⟩

end Ws
