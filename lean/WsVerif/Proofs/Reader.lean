/-
  The stream invariant of the message reader (`Sync`: where the reader stands inside a message whose frames are
  known) and what one Reader.Read, any sequence of Reads and Reader.Discard do from any such position, for an
  arbitrary OnIntermediate handler that copes with the interleaved control frames (`Handles`): `step_g`,
  `reads_g`, `pull_g` (ioutil.ReadAll), `discard_frames`, `discard_closed`. The theorems for the unset handler
  (`step`, `reads_sync`) are instances.
-/
import WsVerif.Proofs.ReaderFrame
namespace Ws.RdProof
open Ws Ws.Spec Ws.RdCb Ws.RdBin

/-- `Accepts` with the three fields it reads as parameters: `Accepts r h` is `AcceptsAt r.skipCheck r.state r.maxFrame h` -/
def AcceptsAt (skip : Bool) (st maxF : Nat) (h : Header) : Prop :=
  (if skip then none else checkHeader h st) = none ∧ ¬ (maxF > 0 ∧ h.len > maxF)

/-- the frames that may follow the first fragment of an open message: control frames anywhere,
    non-final fragments, and a final fragment last — each accepted in the fragmented state `st`. With `ao`
    ("allow open") the list may also stop before the final fragment. -/
inductive Tail (ao skip : Bool) (st maxF : Nat) : List WFrame → Prop
  /-- the known prefix of the message ends here with the message still open (what follows on the
      transport is arbitrary: the next fragment, an offending frame, a cut, …) -/
  | opn : ao = true → Tail ao skip st maxF []
  | last (f : WFrame) : f.OK → opIsControl f.h.op = false → f.h.fin = true → AcceptsAt skip st maxF f.h →
      Tail ao skip st maxF [f]
  | cont (f : WFrame) (fs : List WFrame) : f.OK → opIsControl f.h.op = false → f.h.fin = false →
      AcceptsAt skip st maxF f.h → Tail ao skip st maxF fs → Tail ao skip st maxF (f :: fs)
  | ctl (f : WFrame) (fs : List WFrame) : f.OK → opIsControl f.h.op = true → AcceptsAt skip st maxF f.h →
      Tail ao skip st maxF fs → Tail ao skip st maxF (f :: fs)

/-- the frame list ends with a final fragment (no open end) -/
def closed : List WFrame → Bool
  | [] => false
  | [f] => !opIsControl f.h.op && f.h.fin
  | _ :: fs => closed fs

theorem closed_cons {f : WFrame} {fs : List WFrame} (h : opIsControl f.h.op = true ∨ f.h.fin = false) :
    closed (f :: fs) = closed fs := by
  cases fs with
  | nil => rcases h with h | h <;> simp [closed, h]
  | cons g gs => rfl

/-- concatenation of the unmasked payloads of the data frames -/
def dataPlain : List WFrame → Bytes
  | [] => []
  | f :: fs => (if opIsControl f.h.op then [] else f.plain) ++ dataPlain fs

theorem Tail.allOK {ao skip st maxF fs} (h : Tail ao skip st maxF fs) : ∀ f ∈ fs, f.OK := by
  induction h with
  | opn _ => exact fun _ hg => nomatch hg
  | last f hok => exact List.forall_mem_cons.mpr ⟨hok, fun _ hg => nomatch hg⟩
  | cont f fs hok _ _ _ _ ih => exact List.forall_mem_cons.mpr ⟨hok, ih⟩
  | ctl f fs hok _ _ _ ih => exact List.forall_mem_cons.mpr ⟨hok, ih⟩

theorem dataPlain_wf (fs : List WFrame) (h : ∀ f ∈ fs, f.OK) : Bytes.WF (dataPlain fs) := by
  induction fs with
  | nil => exact Bytes.WF.nil
  | cons f fs ih =>
    refine Bytes.wf_append.mpr ⟨?_, ih fun g hg => h g (by simp [hg])⟩
    split
    · exact Bytes.WF.nil
    · exact (h f (by simp)).plain_wf

/-- what every step needs of the configuration and the transport. The three facts about the state word `st` of the
    open message are established once, where the message is entered (`stbits` of Proofs/Check, a sweep over the 256 state bytes),
    so that no step does bit arithmetic. -/
structure Common (skip : Bool) (st maxF : Nat) (r : Rd) (s : Src) : Prop where
  ext : r.ext = false
  u8 : r.checkUTF8 = false
  skip : r.skipCheck = skip
  maxF : r.maxFrame = maxF
  tame : Src.Tame s
  wf : Bytes.WF s.bytes
  stF : stIs st stFragmented = true
  stSet : stSet st stFragmented = st
  stClr : stIs (stClear st stFragmented) stFragmented = false

/-- where the reader stands inside a message; the last two indices are the output still to be delivered and the
    frames still ahead on the transport (before `rest`) -/
inductive Sync (ao skip : Bool) (st maxF : Nat) (rest : Bytes) : Rd → Src → Bytes → List WFrame → Prop
  | mid (r : Rd) (s : Src) (wire : Bytes) (fs : List WFrame) : Common skip st maxF r s →
      InFrame r s wire (encodeFs fs ++ rest) → r.state = st → Tail ao skip st maxF fs →
      Sync ao skip st maxF rest r s (plainOf r wire ++ dataPlain fs) fs
  | lastFrame (r : Rd) (s : Src) (wire : Bytes) : Common skip st maxF r s →
      InFrame r s wire rest → r.state = stClear st stFragmented →
      Sync ao skip st maxF rest r s (plainOf r wire) []
  | between (r : Rd) (s : Src) (fs : List WFrame) : Common skip st maxF r s →
      r.hasFrame = false → r.state = st → s.bytes = encodeFs fs ++ rest → Tail ao skip st maxF fs →
      Sync ao skip st maxF rest r s (dataPlain fs) fs

/-- what one Read makes smaller: the transport's measure, plus one while a frame is installed, so that the Read
    that only closes an exhausted or empty frame counts too -/
def weight (r : Rd) (s : Src) : Nat := mu s + (if r.hasFrame then 1 else 0)

/-- the reader after the message: ready for the next NextFrame like a new reader, with the configuration of `r0`
    (any reader of the same message will do: `Done.of_common`) -/
structure Done (st : Nat) (r0 r : Rd) : Prop where
  has : r.hasFrame = false
  state : r.state = stClear st stFragmented
  op : r.opCode = 0
  u8 : r.utf8 = {}
  raw : r.rawN = 0
  u8on : r.utf8on = false
  cfg : r.skipCheck = r0.skipCheck ∧ r.checkUTF8 = r0.checkUTF8 ∧ r.ext = r0.ext ∧ r.maxFrame = r0.maxFrame

theorem common_of {skip st maxF} {r : Rd} {s : Src} (c : Common skip st maxF r s) (r' : Rd) (s' : Src)
    (h1 : r'.ext = r.ext) (h2 : r'.checkUTF8 = r.checkUTF8) (h3 : r'.skipCheck = r.skipCheck)
    (h4 : r'.maxFrame = r.maxFrame) (ht : Src.Tame s') (hw : Bytes.WF s'.bytes) : Common skip st maxF r' s' :=
  ⟨by rw [h1, c.ext], by rw [h2, c.u8], by rw [h3, c.skip], by rw [h4, c.maxF], ht, hw, c.stF, c.stSet, c.stClr⟩

/-- the reader has consumed the whole known prefix of a still-open message -/
structure AtEnd (ao skip : Bool) (st maxF : Nat) (rest : Bytes) (r : Rd) (s : Src) (rem : Bytes) : Prop where
  opn : ao = true
  common : Common skip st maxF r s
  has : r.hasFrame = false
  state : r.state = st
  bytes : s.bytes = rest
  rem : rem = []

/-- what NextFrame and Discard need of the configuration: `Common` without "the validator is off" — neither of
    them feeds it -/
structure Cfg (skip : Bool) (st maxF : Nat) (r : Rd) (s : Src) : Prop where
  ext : r.ext = false
  skip : r.skipCheck = skip
  maxF : r.maxFrame = maxF
  tame : Src.Tame s
  wf : Bytes.WF s.bytes
  stF : stIs st stFragmented = true
  stSet : stSet st stFragmented = st
  stClr : stIs (stClear st stFragmented) stFragmented = false

theorem Common.cfg {skip st maxF r s} (hc : Common skip st maxF r s) : Cfg skip st maxF r s :=
  ⟨hc.ext, hc.skip, hc.maxF, hc.tame, hc.wf, hc.stF, hc.stSet, hc.stClr⟩

theorem cfg_of {skip st maxF} {r : Rd} {s : Src} (c : Cfg skip st maxF r s) (r' : Rd) (s' : Src)
    (h1 : r'.ext = r.ext) (h3 : r'.skipCheck = r.skipCheck) (h4 : r'.maxFrame = r.maxFrame)
    (ht : Src.Tame s') (hw : Bytes.WF s'.bytes) : Cfg skip st maxF r' s' :=
  ⟨by rw [h1, c.ext], by rw [h3, c.skip], by rw [h4, c.maxF], ht, hw, c.stF, c.stSet, c.stClr⟩

theorem Cfg.accepts {skip st maxF r s} (hc : Cfg skip st maxF r s) (hst : r.state = st) {h : Header}
    (hacc : AcceptsAt skip st maxF h) : Accepts r h := by
  unfold Accepts; rw [hc.skip, hst, hc.maxF]; exact hacc

theorem Cfg.frag {skip st maxF r s} (hc : Cfg skip st maxF r s) (hst : r.state = st) : r.fragmented = true := by
  simp [Rd.fragmented, hst, hc.stF]

theorem Common.accepts {skip st maxF r s} (hc : Common skip st maxF r s) (hst : r.state = st) {h : Header}
    (hacc : AcceptsAt skip st maxF h) : Accepts r h := hc.cfg.accepts hst hacc

theorem Common.frag {skip st maxF r s} (hc : Common skip st maxF r s) (hst : r.state = st) : r.fragmented = true :=
  hc.cfg.frag hst

theorem Sync.common {ao skip st maxF rest r s rem fs} (hs : Sync ao skip st maxF rest r s rem fs) : Common skip st maxF r s := by
  cases hs <;> assumption

theorem Done.of_common {skip : Bool} {st maxF : Nat} {r r1 r' : Rd} {s s1 : Src} (h : Done st r1 r')
    (c0 : Common skip st maxF r s) (c1 : Common skip st maxF r1 s1) : Done st r r' := by
  obtain ⟨g1, g2, g3, g5⟩ := h.cfg
  exact { h with cfg := ⟨by rw [g1, c1.skip, c0.skip], by rw [g2, c1.u8, c0.u8], by rw [g3, c1.ext, c0.ext],
    by rw [g5, c1.maxF, c0.maxF]⟩ }

/-- `Sync.mid` (`fin = false`) and `Sync.lastFrame` in one, so that `step_in` is proved once for both -/
theorem Sync.inFrame {ao skip : Bool} {st maxF : Nat} {rest : Bytes} {r : Rd} {s : Src} {wire : Bytes} {fs : List WFrame} (fin : Bool)
    (hc : Common skip st maxF r s) (hin : InFrame r s wire (encodeFs fs ++ rest))
    (hst : r.state = if fin then stClear st stFragmented else st) (hfs : if fin then fs = [] else Tail ao skip st maxF fs) :
    Sync ao skip st maxF rest r s (plainOf r wire ++ dataPlain fs) fs := by
  cases fin with
  | false => exact Sync.mid r s wire fs hc hin hst hfs
  | true =>
    simp only [if_true] at hst hfs
    subst hfs
    have hin' : InFrame r s wire rest := hin
    simpa [dataPlain] using Sync.lastFrame r s wire hc hin' hst

theorem step_in (ao : Bool) {skip : Bool} {st maxF : Nat} (rest : Bytes) {r : Rd} {s : Src} (cx : Ctx) (cb : Option Callback)
    {k : Nat} (hk : 0 < k) {wire : Bytes} (fs : List WFrame) (fin : Bool)
    (hc : Common skip st maxF r s) (hin : InFrame r s wire (encodeFs fs ++ rest))
    (hst : r.state = if fin then stClear st stFragmented else st) (hfs : if fin then fs = [] else Tail ao skip st maxF fs) :
    ∃ bytes e r' s', r.read s cx k cb = some (bytes, bytes.length, e, r', s', cx) ∧ mu s' ≤ mu s ∧
      ((e = none ∧ ∃ rem', plainOf r wire ++ dataPlain fs = bytes ++ rem' ∧ Sync ao skip st maxF rest r' s' rem' fs
          ∧ weight r' s' < weight r s)
       ∨ (e = some .eof ∧ plainOf r wire ++ dataPlain fs = bytes ∧ s'.bytes = rest ∧ Src.Tame s' ∧ Done st r r' ∧ fs = [])) := by
  obtain ⟨g, s1, hg, hb, htame, hwf1, hmu, hsame, hread⟩ :=
    read_inframe r s cx cb wire (encodeFs fs ++ rest) k hin hk (Or.inl hc.u8)
  have hmule : mu s1 ≤ mu s := by
    by_cases hz : wire.length = 0
    · rw [hsame hz]; exact Nat.le_refl _
    · exact Nat.le_of_lt (hmu (Nat.pos_of_ne_zero hz))
  have hlen : (plainOf r (wire.take g)).length = g := by
    rw [plainOf_length, List.length_take, Nat.min_eq_left hg]
  have hc1 : Common skip st maxF (adv r g) s1 := common_of hc _ _ rfl rfl rfl rfl htame hwf1
  rcases hread with ⟨hlt, hrd⟩ | ⟨heq, hrd⟩
  · refine ⟨_, none, adv r g, s1, by rw [hlen]; exact hrd, hmule,
      Or.inl ⟨rfl, plainOf (adv r g) (wire.drop g) ++ dataPlain fs, ?_, ?_, ?_⟩⟩
    · rw [← List.append_assoc, plainOf_split r wire g hg]
    · exact Sync.inFrame fin hc1 (hin.advance g hb htame) hst hfs
    · have := hmu (by omega)
      simp only [weight, show (adv r g).hasFrame = true from hin.has, hin.has, if_true]; omega
  · have hfr2 : (adv r g).fragmented = !fin := by
      cases fin <;> simp [Rd.fragmented, show (adv r g).state = r.state from rfl, hst, hc.stF, hc.stClr]
    cases fin with
    | false =>
      -- the fragment ends: the frame slot is cleared, the message stays open
      simp only [afterFrame, hfr2, Bool.not_false, if_true] at hrd
      refine ⟨_, none, (adv r g).resetFragment, s1, by rw [hlen]; exact hrd, hmule, Or.inl ⟨rfl, dataPlain fs, ?_, ?_, ?_⟩⟩
      · rw [heq, List.take_length]
      · exact Sync.between _ s1 fs (common_of hc1 _ _ rfl rfl rfl rfl htame hwf1) rfl hst
          (by rw [hb, heq]; simp) hfs
      · simp only [weight, Rd.resetFragment, hin.has, if_true, Bool.false_eq_true, if_false]; omega
    | true =>
      simp only [if_true] at hst hfs
      simp only [afterFrame, hfr2, Bool.not_true, Bool.false_eq_true, if_false] at hrd
      refine ⟨_, some .eof, (adv r g).reset, s1, by rw [hlen]; exact hrd, hmule, Or.inr ⟨rfl, ?_, ?_, htame, ?_, hfs⟩⟩
      · rw [hfs, heq, List.take_length]; simp [dataPlain]
      · rw [hb, heq, hfs]; simp [encodeFs]
      · exact { has := rfl, state := hst, op := rfl, u8 := rfl, raw := rfl, u8on := rfl, cfg := ⟨rfl, rfl, rfl, rfl⟩ }

theorem step_inframe (ao skip : Bool) (st maxF : Nat) (rest : Bytes) (r : Rd) (s : Src) (cx : Ctx) (cb : Option Callback)
    (k : Nat) (hk : 0 < k) (rem : Bytes) (fs : List WFrame)
    (hs : (∃ wire, Common skip st maxF r s ∧ InFrame r s wire (encodeFs fs ++ rest) ∧ r.state = st
              ∧ Tail ao skip st maxF fs ∧ rem = plainOf r wire ++ dataPlain fs)
          ∨ (fs = [] ∧ ∃ wire, Common skip st maxF r s ∧ InFrame r s wire rest ∧ r.state = stClear st stFragmented
              ∧ rem = plainOf r wire)) :
    ∃ bytes e r' s', r.read s cx k cb = some (bytes, bytes.length, e, r', s', cx) ∧ mu s' ≤ mu s ∧
      ((e = none ∧ ∃ rem', rem = bytes ++ rem' ∧ Sync ao skip st maxF rest r' s' rem' fs ∧ weight r' s' < weight r s)
       ∨ (e = some .eof ∧ rem = bytes ∧ s'.bytes = rest ∧ Src.Tame s' ∧ Done st r r' ∧ fs = [])) := by
  rcases hs with ⟨wire, hc, hin, hst, ht, rfl⟩ | ⟨rfl, wire, hc, hin, hst, rfl⟩
  · exact step_in ao rest cx cb hk fs false hc hin hst ht
  · have := step_in ao rest cx cb hk [] true hc hin hst rfl
    rwa [show plainOf r wire ++ dataPlain [] = plainOf r wire from List.append_nil _] at this

theorem nextFrame_ctl_g {cb : Option Callback} {S : CtlSpec} (hcb : Handles cb S) {skip : Bool} {st maxF : Nat} {r : Rd} {s : Src}
    (cx : Ctx) (f : WFrame) (tail : Bytes)
    (hc : Cfg skip st maxF r s) (hst : r.state = st) (hb : s.bytes = rfcEncode f.h ++ (f.wire ++ tail))
    (hok : f.OK) (hctl : opIsControl f.h.op = true) (hacc : AcceptsAt skip st maxF f.h) (hg : S.good f) (hi : S.inv cx) :
    ∃ g s' cx', r.nextFrame s cx cb = (some f.h, none, afterCtl r f.h g, s', cx') ∧ s'.bytes = tail
      ∧ Cfg skip st maxF (afterCtl r f.h g) s' ∧ mu s' < mu s ∧ s'.fin = s.fin ∧ S.inv cx' ∧ S.eff f cx cx' := by
  obtain ⟨s1, hrh, hb1, hwf1, ht1, hmu1, hf1⟩ := readHeader_at f.h hok.hwf _ s hb hc.wf hc.tame
  obtain ⟨g, s', cx', hrun, hb', ht', hf', hmu', hi', he'⟩ := hcb f r s1 cx tail hok hctl hg hi
    ⟨rfl, hb1, hok.len.symm, hwf1, hok.mwf, ht1⟩
  refine ⟨g, s', cx', ?_, hb', ?_, by omega, hf'.trans hf1, hi', he'⟩
  · rw [nextFrame_ctl_eq r s s1 cx cb f.h hrh (hc.accepts hst hacc) hc.ext hctl (hc.frag hst), hrun]
  · exact cfg_of hc _ _ rfl rfl rfl ht' (by rw [hb']; exact wf_append_right (hb1 ▸ hwf1))

/-- the contexts a handler with effect `eff` can reach over the control frames of a frame list -/
inductive Run (eff : WFrame → Ctx → Ctx → Prop) : List WFrame → Ctx → Ctx → Prop
  | nil (cx : Ctx) : Run eff [] cx cx
  | data (f : WFrame) (fs : List WFrame) (cx cxF : Ctx) : opIsControl f.h.op = false →
      Run eff fs cx cxF → Run eff (f :: fs) cx cxF
  | ctl (f : WFrame) (fs : List WFrame) (cx cx1 cxF : Ctx) : opIsControl f.h.op = true →
      eff f cx cx1 → Run eff fs cx1 cxF → Run eff (f :: fs) cx cxF

theorem Run.append {eff} {pre fs : List WFrame} {cx cx1 cx2 : Ctx} (h1 : Run eff pre cx cx1) (h2 : Run eff fs cx1 cx2) :
    Run eff (pre ++ fs) cx cx2 := by
  induction h1 with
  | nil _ => exact h2
  | data f fs' _ _ hd _ ih => exact Run.data f _ _ _ hd (ih h2)
  | ctl f fs' _ _ _ hc he _ ih => exact Run.ctl f _ _ _ _ hc he (ih h2)

theorem step_data (ao : Bool) {skip : Bool} {st maxF : Nat} {rest : Bytes} {r : Rd} {s : Src} (cx : Ctx) (cb : Option Callback)
    {k : Nat} (hk : 0 < k) {f : WFrame} {fs : List WFrame}
    (hc : Common skip st maxF r s) (hhas : r.hasFrame = false) (hst : r.state = st)
    (hb : s.bytes = encodeFs (f :: fs) ++ rest) (hok : f.OK) (hdata : opIsControl f.h.op = false)
    (hacc : AcceptsAt skip st maxF f.h)
    (hfs : if f.h.fin then fs = [] else Tail ao skip st maxF fs) :
    ∃ bytes e r' s', r.read s cx k cb = some (bytes, bytes.length, e, r', s', cx) ∧
      ((e = none ∧ ∃ rem', dataPlain (f :: fs) = bytes ++ rem' ∧ Sync ao skip st maxF rest r' s' rem' fs ∧ weight r' s' < weight r s)
       ∨ (e = some .eof ∧ dataPlain (f :: fs) = bytes ∧ s'.bytes = rest ∧ Src.Tame s' ∧ Done st r r' ∧ fs = [])) := by
  obtain ⟨s1, hnf, hin5, hmu1, _⟩ := nextFrame_data_at r s cx cb f (encodeFs fs ++ rest) hc.ext hc.u8 (by rw [hb, encodeFs_cons])
    hc.wf hc.tame hok hdata (hc.accepts hst hacc)
  have hrd := read_enter k hhas (hc.frag hst) hnf rfl
  have hc5 : Common skip st maxF (enter r f.h) s1 :=
    common_of hc _ _ rfl rfl rfl rfl hin5.tame hin5.wf
  have hpl : dataPlain (f :: fs) = plainOf (enter r f.h) f.wire ++ dataPlain fs := by
    simp only [dataPlain, hdata, Bool.false_eq_true, if_false]; rfl
  obtain ⟨b, e, r', s', h1, _, h2⟩ := step_in ao rest cx cb hk fs f.h.fin hc5 hin5
    (by cases hfin : f.h.fin <;> simp [enter, hst, hc.stSet, hfin]) hfs
  rw [← hpl] at h2
  refine ⟨b, e, r', s', by rw [hrd]; exact h1, ?_⟩
  rcases h2 with ⟨he, rem', hr1, hr2, hr3⟩ | ⟨he, hr1, hr2, hr3, hr4, hr5⟩
  · refine Or.inl ⟨he, rem', hr1, hr2, ?_⟩
    have : weight r' s' < mu s1 + 1 := by simpa [weight, enter] using hr3
    have hw0 : weight r s = mu s := by simp [weight, hhas]
    omega
  · exact Or.inr ⟨he, hr1, hr2, hr3, { hr4 with cfg := by simpa [enter] using hr4.cfg }, hr5⟩

/-- One Reader.Read anywhere inside a message, for any OnIntermediate handler with `Handles`: the next piece of the
    output (possibly empty) and `Sync` again on a smaller weight; or the last piece with io.EOF, the reader reset
    behind the message; or the known frames are used up (`AtEnd`). The frames this Read went past are `pre`, and the
    context is one the handler reaches over them. -/
theorem step_g {cb : Option Callback} {S : CtlSpec} (hcb : Handles cb S) {ao skip : Bool} {st maxF : Nat} {rest : Bytes}
    {r : Rd} {s : Src} (cx : Ctx) {k : Nat} (hk : 0 < k) {rem : Bytes} {fs0 : List WFrame}
    (hs : Sync ao skip st maxF rest r s rem fs0) (hi : S.inv cx) (hg : ∀ f ∈ fs0, opIsControl f.h.op = true → S.good f) :
    (∃ bytes e r' s' cx' pre fs', r.read s cx k cb = some (bytes, bytes.length, e, r', s', cx') ∧ S.inv cx'
        ∧ fs0 = pre ++ fs' ∧ Run S.eff pre cx cx' ∧
      ((e = none ∧ ∃ rem', rem = bytes ++ rem' ∧ Sync ao skip st maxF rest r' s' rem' fs' ∧ weight r' s' < weight r s)
       ∨ (e = some .eof ∧ rem = bytes ∧ s'.bytes = rest ∧ Src.Tame s' ∧ Done st r r' ∧ fs' = [])))
    ∨ (AtEnd ao skip st maxF rest r s rem ∧ fs0 = []) := by
  cases hs with
  | mid wire _ hc hin hst htail =>
    obtain ⟨b, e, r', s', h1, _, h2⟩ := step_in ao rest cx cb hk fs0 false hc hin hst htail
    exact Or.inl ⟨b, e, r', s', cx, [], fs0, h1, hi, rfl, Run.nil cx, h2⟩
  | lastFrame wire hc hin hst =>
    obtain ⟨b, e, r', s', h1, _, h2⟩ := step_in ao rest cx cb hk [] true hc hin hst rfl
    rw [show plainOf r wire ++ dataPlain [] = plainOf r wire from List.append_nil _] at h2
    exact Or.inl ⟨b, e, r', s', cx, [], [], h1, hi, rfl, Run.nil cx, h2⟩
  | between _ hc hhas hst hb htail =>
    cases htail with
    | opn hao => exact Or.inr ⟨⟨hao, hc, hhas, hst, by simpa [encodeFs] using hb, rfl⟩, rfl⟩
    | ctl f fs' hok hctl hacc ht' =>
      obtain ⟨g, s3, cx1, hnf, hb3, hc3, hmu3, _, hi1, he1⟩ := nextFrame_ctl_g hcb cx f (encodeFs fs' ++ rest) hc.cfg hst
        (by rw [hb, encodeFs_cons]) hok hctl hacc (hg f (List.mem_cons_self ..) hctl) hi
      have hrd := read_skip k hhas (hc.frag hst) hnf hhas
      refine Or.inl ⟨[], none, afterCtl r f.h g, s3, cx1, [f], fs', by simpa using hrd, hi1, rfl,
        Run.ctl f [] cx cx1 cx1 hctl he1 (Run.nil cx1), Or.inl ⟨rfl, dataPlain fs', by simp [dataPlain, hctl], ?_, ?_⟩⟩
      · exact Sync.between _ s3 fs' (common_of hc _ _ rfl rfl rfl rfl hc3.tame hc3.wf) hhas hst hb3 ht'
      · simp only [weight, show (afterCtl r f.h g).hasFrame = false from hhas, hhas, Bool.false_eq_true, if_false]; omega
    | cont f fs' hok hdata hfin hacc ht' =>
      obtain ⟨b, e, r', s', h1, h2⟩ := step_data ao cx cb hk hc hhas hst hb hok hdata hacc
        (by rw [hfin]; exact ht')
      exact Or.inl ⟨b, e, r', s', cx, [f], fs', h1, hi, rfl, Run.data f [] cx cx hdata (Run.nil cx), h2⟩
    | last f hok hdata hfin hacc =>
      obtain ⟨b, e, r', s', h1, h2⟩ := step_data ao cx cb hk hc hhas hst hb hok hdata hacc
        (by rw [hfin, if_pos rfl])
      exact Or.inl ⟨b, e, r', s', cx, [f], [], h1, hi, rfl, Run.data f [] cx cx hdata (Run.nil cx), h2⟩

theorem Run.same {eff : WFrame → Ctx → Ctx → Prop} (he : ∀ f cx cx', eff f cx cx' → cx' = cx) {pre : List WFrame} {cx cx' : Ctx}
    (h : Run eff pre cx cx') : cx' = cx := by
  induction h with
  | nil _ => rfl
  | data _ _ _ _ _ _ ih => exact ih
  | ctl _ _ _ _ _ _ h1 _ ih => rw [ih]; exact he _ _ _ h1

theorem run_none {pre : List WFrame} {cx cx' : Ctx} (h : Run noHandler.eff pre cx cx') : cx' = cx :=
  Run.same (fun _ _ _ h => h) h

/-- `step_g` with OnIntermediate unset: interleaved control frames are skipped and the context stays. -/
theorem step (ao skip : Bool) (st maxF : Nat) (rest : Bytes) (r : Rd) (s : Src) (cx : Ctx) (k : Nat) (hk : 0 < k)
    (rem : Bytes) (fs0 : List WFrame) (hs : Sync ao skip st maxF rest r s rem fs0) :
    (∃ bytes e r' s', r.read s cx k none = some (bytes, bytes.length, e, r', s', cx) ∧
      ((e = none ∧ ∃ rem' fs', rem = bytes ++ rem' ∧ Sync ao skip st maxF rest r' s' rem' fs' ∧ weight r' s' < weight r s)
       ∨ (e = some .eof ∧ rem = bytes ∧ s'.bytes = rest ∧ Src.Tame s' ∧ Done st r r')))
    ∨ AtEnd ao skip st maxF rest r s rem := by
  rcases step_g handles_none cx hk hs trivial (fun _ _ _ => trivial) with
    ⟨b, e, r', s', cx', pre, fs', hrd, _, _, hrun, hcase⟩ | ⟨hend, _⟩
  · cases run_none hrun
    refine Or.inl ⟨b, e, r', s', hrd, ?_⟩
    rcases hcase with ⟨he, rem', g1, g2, g3⟩ | ⟨he, g1, g2, g3, g4, _⟩
    · exact Or.inl ⟨he, rem', fs', g1, g2, g3⟩
    · exact Or.inr ⟨he, g1, g2, g3, g4⟩
  · exact Or.inr hend

end Ws.RdProof

namespace Ws.RdCb
open Ws

/-- the caller's loop for a reader with an OnIntermediate handler; `readsCb none` is `RdProof.reads` (`reads_eq`) -/
def readsCb (cb : Option Callback) : Rd → Src → Ctx → List Nat → Option (Bytes × Option RErr × Rd × Src × Ctx)
  | r, s, cx, [] => some ([], none, r, s, cx)
  | r, s, cx, k :: ks =>
    match r.read s cx k cb with
    | none => none
    | some (bytes, n, e, r', s', cx') =>
      match e with
      | some e => some (bytes.take n, some e, r', s', cx')
      | none =>
        match readsCb cb r' s' cx' ks with
        | none => none
        | some (o, e2, r2, s2, cx2) => some (bytes.take n ++ o, e2, r2, s2, cx2)

end Ws.RdCb

namespace Ws.RdProof
open Ws Ws.Spec Ws.RdCb Ws.RdBin

theorem reads_eq (r : Rd) (s : Src) (cx : Ctx) (ks : List Nat) : reads r s cx ks = readsCb none r s cx ks := by
  induction ks generalizing r s cx with
  | nil => rfl
  | cons k ks ih =>
    simp only [reads, readsCb, ih]
    rfl

/-- `step_g` over any sequence of Reads. The last case is the open end: the first `ks1` Reads deliver everything known
    and the reader stands `AtEnd`. -/
theorem reads_g {cb : Option Callback} {S : CtlSpec} (hcb : Handles cb S) {ao skip : Bool} {st maxF : Nat} {rest : Bytes}
    {ks : List Nat} (hpos : ∀ k ∈ ks, 0 < k) {r : Rd} {s : Src} (cx : Ctx) {rem : Bytes} {fs0 : List WFrame}
    (hs : Sync ao skip st maxF rest r s rem fs0) (hi : S.inv cx) (hg : ∀ f ∈ fs0, opIsControl f.h.op = true → S.good f) :
    (∃ out e r' s' cx' pre fs', readsCb cb r s cx ks = some (out, e, r', s', cx') ∧ S.inv cx'
        ∧ fs0 = pre ++ fs' ∧ Run S.eff pre cx cx' ∧
      ((e = none ∧ ∃ rem', rem = out ++ rem' ∧ Sync ao skip st maxF rest r' s' rem' fs' ∧ weight r' s' + ks.length ≤ weight r s)
       ∨ (e = some .eof ∧ rem = out ∧ s'.bytes = rest ∧ Src.Tame s' ∧ Done st r r' ∧ fs' = [])))
    ∨ (∃ ks1 k2 ks2 out1 r1 s1 cx1, ks = ks1 ++ k2 :: ks2 ∧ readsCb cb r s cx ks1 = some (out1, none, r1, s1, cx1)
        ∧ rem = out1 ∧ AtEnd ao skip st maxF rest r1 s1 [] ∧ S.inv cx1 ∧ Run S.eff fs0 cx cx1) := by
  induction ks generalizing r s cx rem fs0 with
  | nil => exact Or.inl ⟨[], none, r, s, cx, [], fs0, rfl, hi, rfl, Run.nil cx, Or.inl ⟨rfl, rem, by simp, hs, by simp⟩⟩
  | cons k ks ih =>
    rcases step_g hcb cx (hpos k (by simp)) hs hi hg with
      ⟨b, e, r1, s1, cx1, pre1, fs1, hrd, hi1, hfs1, hrun1, hcase⟩ | ⟨hend, hnil0⟩
    · rcases hcase with ⟨he, rem1, hr1, hs1, hw1⟩ | ⟨he, hr1, hb1, ht1, hd1, hnil⟩
      · subst he
        have hg1 : ∀ f ∈ fs1, opIsControl f.h.op = true → S.good f := fun f hf => hg f (hfs1 ▸ List.mem_append_right _ hf)
        rcases ih (fun k' hk' => hpos k' (by simp [hk'])) cx1 hs1 hi1 hg1 with
          ⟨o, e2, r2, s2, cx2, pre2, fs2, hrd2, hi2, hfs2, hrun2, hcase2⟩ | ⟨ks1, k2, ks2, o1, r2, s2, cx2, hks, hrd2, hrem2, hend2, hi2, hrun2⟩
        · refine Or.inl ⟨b ++ o, e2, r2, s2, cx2, pre1 ++ pre2, fs2, by simp only [readsCb, hrd, hrd2, List.take_length], hi2,
            by rw [hfs1, hfs2, List.append_assoc], hrun1.append hrun2, ?_⟩
          rcases hcase2 with ⟨he2, rem2, hr2, hs2, hw2⟩ | ⟨he2, hr2, hb2, ht2, hd2, hnil2⟩
          · exact Or.inl ⟨he2, rem2, by rw [hr1, hr2, List.append_assoc], hs2, by simp only [List.length_cons]; omega⟩
          · exact Or.inr ⟨he2, by rw [hr1, hr2], hb2, ht2, hd2.of_common hs.common hs1.common, hnil2⟩
        · exact Or.inr ⟨k :: ks1, k2, ks2, b ++ o1, r2, s2, cx2, by rw [hks]; rfl,
            by simp only [readsCb, hrd, hrd2, List.take_length], by rw [hr1, hrem2], hend2, hi2, hfs1 ▸ hrun1.append hrun2⟩
      · subst he
        exact Or.inl ⟨b, some .eof, r1, s1, cx1, pre1, fs1, by simp only [readsCb, hrd, List.take_length], hi1, hfs1, hrun1,
          Or.inr ⟨rfl, hr1, hb1, ht1, hd1, hnil⟩⟩
    · subst hnil0
      exact Or.inr ⟨[], k, ks, [], r, s, cx, rfl, rfl, hend.rem, { hend with rem := rfl }, hi, Run.nil cx⟩

/-- Any sequence of Reads with positive buffer sizes from any point inside a message, OnIntermediate unset: either
    all of them stay inside the known frames (no error, `Sync` again, the weight down by at least one per Read), or
    one of them returns the end of the message with io.EOF, or, when the known part of the message has an open end,
    the first `ks1` of them deliver everything known without error and the reader stands at that end. -/
theorem reads_sync (ao skip : Bool) (st maxF : Nat) (rest : Bytes) (ks : List Nat) (hpos : ∀ k ∈ ks, 0 < k)
    (r : Rd) (s : Src) (cx : Ctx) (rem : Bytes) (fs0 : List WFrame) (hs : Sync ao skip st maxF rest r s rem fs0) :
    (∃ out e r' s', reads r s cx ks = some (out, e, r', s', cx) ∧
      ((e = none ∧ ∃ rem' fs', rem = out ++ rem' ∧ Sync ao skip st maxF rest r' s' rem' fs' ∧ weight r' s' + ks.length ≤ weight r s)
       ∨ (e = some .eof ∧ rem = out ∧ s'.bytes = rest ∧ Src.Tame s' ∧ Done st r r')))
    ∨ (∃ ks1 k2 ks2 out1 r1 s1, ks = ks1 ++ k2 :: ks2 ∧ reads r s cx ks1 = some (out1, none, r1, s1, cx)
        ∧ rem = out1 ∧ AtEnd ao skip st maxF rest r1 s1 []) := by
  simp only [reads_eq]
  rcases reads_g handles_none hpos cx hs trivial (fun _ _ _ => trivial) with
    ⟨o, e, r', s', cx', pre, fs', hrd, _, _, hrun, hcase⟩ | ⟨ks1, k2, ks2, o1, r1, s1, cx1, hks, hrd, hrem, hend, _, hrun⟩
  · cases run_none hrun
    refine Or.inl ⟨o, e, r', s', hrd, ?_⟩
    rcases hcase with ⟨he, rem', g1, g2, g3⟩ | ⟨he, g1, g2, g3, g4, _⟩
    · exact Or.inl ⟨he, rem', fs', g1, g2, g3⟩
    · exact Or.inr ⟨he, g1, g2, g3, g4⟩
  · cases run_none hrun
    exact Or.inr ⟨ks1, k2, ks2, o1, r1, s1, hks, hrd, hrem, hend⟩

/-- ioutil.ReadAll over the rest of a message, any read size, any handler with `Handles`: all remaining data, the
    loop ended by io.EOF, the transport behind the message, the handler run over every remaining control frame. -/
theorem pull_g {cb : Option Callback} {S : CtlSpec} (hcb : Handles cb S) (skip : Bool) (st maxF : Nat) (rest : Bytes)
    (k : Nat) (hk : 0 < k) (fuel : Nat) (r : Rd) (s : Src) (cx : Ctx) (rem : Bytes) (fs0 : List WFrame) (acc : List Bytes)
    (hs : Sync false skip st maxF rest r s rem fs0) (hi : S.inv cx) (hg : ∀ f ∈ fs0, opIsControl f.h.op = true → S.good f)
    (hw : weight r s < fuel) :
    ∃ chunks r' s' cx', Rd.pull true k cb fuel r s cx acc = (acc.reverse ++ chunks, .eof, r', s', cx')
      ∧ chunks.flatten = rem ∧ s'.bytes = rest ∧ Src.Tame s' ∧ Run S.eff fs0 cx cx' ∧ S.inv cx' := by
  obtain ⟨chunks, r', s', cx', hp, hfl, hb', ht', hrun, hi'⟩ := pull_inv (k := k) (cb := cb)
    (fun r s cx' rem => ∃ pre fs', fs0 = pre ++ fs' ∧ Sync false skip st maxF rest r s rem fs' ∧ Run S.eff pre cx cx' ∧ S.inv cx')
    (fun _ s' cx' => s'.bytes = rest ∧ Src.Tame s' ∧ Run S.eff fs0 cx cx' ∧ S.inv cx') weight
    (fun r s cx' rem ⟨pre, fs', hfs, hs, hrun, hi⟩ => by
      rcases step_g hcb cx' hk hs hi
          (fun f hf => hg f (hfs ▸ List.mem_append_right _ hf)) with
        ⟨b, e, r1, s1, cx1, pre1, fs1, hrd, hi1, hfs1, hrun1, hcase⟩ | ⟨hend, _⟩
      · have hfs' : fs0 = (pre ++ pre1) ++ fs1 := by rw [hfs, hfs1, List.append_assoc]
        refine ⟨b, e, r1, s1, cx1, hrd, hcase.imp ?_ ?_⟩
        · rintro ⟨he, rem1, hr1, hs1, hw1⟩
          exact ⟨he, rem1, hr1, ⟨pre ++ pre1, fs1, hfs', hs1, hrun.append hrun1, hi1⟩, hw1⟩
        · rintro ⟨he, hr1, hb1, ht1, _, hnil⟩
          exact ⟨he, hr1, hb1, ht1, by rw [hfs', hnil, List.append_nil]; exact hrun.append hrun1, hi1⟩
      · exact absurd hend.opn (by decide))
    fuel r s cx rem ⟨[], fs0, rfl, hs, Run.nil cx, hi⟩ hw
  exact ⟨chunks, r', s', cx', by rw [pull_acc, hp], hfl, hb', ht', hrun, hi'⟩

theorem discard_final_frame (r : Rd) (s : Src) (cx : Ctx) (cb : Option Callback) (fuel : Nat) (wire rest : Bytes)
    (hnf : r.fragmented = false) (hb : s.bytes = wire ++ rest) (hn : r.rawN = wire.length) (htame : Src.Tame s) :
    ∃ s', r.discard s cx cb (fuel + 1) = (none, ({ r with rawN := 0 } : Rd).reset, s', cx)
      ∧ s'.bytes = rest ∧ Src.Tame s' := by
  obtain ⟨s', hd, hb', ht', _⟩ := drain_frame r s hb hn htame
  have hfr : ({ r with rawN := 0 } : Rd).fragmented = false := hnf
  refine ⟨s', ?_, hb', ht'⟩
  unfold Rd.discard
  simp only [hd, hfr, Bool.not_false, if_true]

/-- one round of Discard's loop inside an open message: the rest of the current frame is drained, and the
    outcome is that of NextFrame on what follows -/
theorem discard_succ {skip : Bool} {st maxF : Nat} {r : Rd} {s : Src} (cx : Ctx) (cb : Option Callback) (n : Nat) {wire tail : Bytes}
    (hc : Cfg skip st maxF r s) (hst : r.state = st) (hn : r.rawN = wire.length) (hb : s.bytes = wire ++ tail) :
    ∃ s1, Cfg skip st maxF ({ r with rawN := 0 } : Rd) s1 ∧ s1.bytes = tail ∧ s1.fin = s.fin ∧
      (∀ h r2 s2 cx2, ({ r with rawN := 0 } : Rd).nextFrame s1 cx cb = (h, none, r2, s2, cx2) →
        r.discard s cx cb (n + 1) = r2.discard s2 cx2 cb n)
      ∧ (∀ h e r2 s2 cx2, ({ r with rawN := 0 } : Rd).nextFrame s1 cx cb = (h, some e, r2, s2, cx2) →
        r.discard s cx cb (n + 1) = (some e, r2.reset, s2, cx2)) := by
  obtain ⟨s1, hd, hb1, ht1, hf1, _⟩ := drain_frame r s hb hn hc.tame
  have hfr : ({ r with rawN := 0 } : Rd).fragmented = true := hc.frag hst
  refine ⟨s1, cfg_of hc _ _ rfl rfl rfl ht1 (by rw [hb1]; exact wf_append_right (hb ▸ hc.wf)), hb1, hf1, ?_, ?_⟩
  · intro h r2 s2 cx2 hnf
    rw [Rd.discard]
    simp only [hd, hfr, Bool.not_true, Bool.false_eq_true, if_false, hnf]
  · intro h e r2 s2 cx2 hnf
    rw [Rd.discard]
    simp only [hd, hfr, Bool.not_true, Bool.false_eq_true, if_false, hnf]

/-- Discard past the known frames of a message, any handler with `Handles`: one round per frame, and it goes on from
    inside the last of them (a final fragment, if the list is closed) with the handler run over the control frames. -/
theorem discard_frames {cb : Option Callback} {S : CtlSpec} (hcb : Handles cb S) {ao skip : Bool} {st maxF : Nat} (rest : Bytes)
    {fs : List WFrame} (ht : Tail ao skip st maxF fs) (n : Nat) :
    ∀ (r : Rd) (s : Src) (wire : Bytes) (cx : Ctx), (∀ f ∈ fs, opIsControl f.h.op = true → S.good f) →
      Cfg skip st maxF r s → r.state = st → r.rawN = wire.length → s.bytes = wire ++ (encodeFs fs ++ rest) → S.inv cx →
      ∃ r1 s1 cx1 wire1, r.discard s cx cb (n + fs.length) = r1.discard s1 cx1 cb n ∧ Cfg skip st maxF r1 s1
        ∧ r1.state = (if closed fs then stClear st stFragmented else st) ∧ r1.rawN = wire1.length ∧ s1.bytes = wire1 ++ rest
        ∧ s1.fin = s.fin ∧ Run S.eff fs cx cx1 ∧ S.inv cx1 ∧ r1.checkUTF8 = r.checkUTF8 := by
  induction ht with
  | opn _ =>
    intro r s wire cx _ hc hst hn hb hi
    exact ⟨r, s, cx, wire, by simp, hc, by simp [closed, hst], hn, by simpa [encodeFs] using hb, rfl, Run.nil cx, hi, rfl⟩
  | last f hok hdata hfin hacc =>
    intro r s wire cx _ hc hst hn hb hi
    obtain ⟨s1, hc1, hb1, hf1, hnext, _⟩ := discard_succ cx cb n hc hst hn hb
    obtain ⟨s2, hnf, hb2, hwf2, ht2, _, hf2⟩ := nextFrame_at ({ r with rawN := 0 } : Rd) s1 cx cb f.h (f.wire ++ rest) hc1.ext
      (by rw [hb1, encodeFs_cons]; simp [encodeFs]) hc1.wf hc1.tame hok.hwf (hc1.accepts hst hacc) (by rw [hdata, Bool.and_false])
    exact ⟨_, s2, cx, f.wire, hnext _ _ _ _ hnf, cfg_of hc _ _ rfl rfl rfl ht2 hwf2,
      by simp [closed, hdata, hfin, enter, hst], hok.len.symm, hb2, hf2.trans hf1, Run.data f [] cx cx hdata (Run.nil cx), hi, rfl⟩
  | cont f fs hok hdata hfin hacc _ ih =>
    intro r s wire cx hg hc hst hn hb hi
    obtain ⟨s1, hc1, hb1, hf1, hnext, _⟩ := discard_succ cx cb (n + fs.length) hc hst hn hb
    obtain ⟨s2, hnf, hb2, hwf2, ht2, _, hf2⟩ := nextFrame_at ({ r with rawN := 0 } : Rd) s1 cx cb f.h (f.wire ++ (encodeFs fs ++ rest))
      hc1.ext (by rw [hb1, encodeFs_cons]) hc1.wf hc1.tame hok.hwf (hc1.accepts hst hacc) (by rw [hdata, Bool.and_false])
    obtain ⟨r1, s3, cx1, wire1, hd, g1, g2, g3, g4, g5, g6, g7, g8⟩ := ih (enter ({ r with rawN := 0 } : Rd) f.h) s2 f.wire cx
      (fun g hg' => hg g (List.mem_cons_of_mem _ hg')) (cfg_of hc _ _ rfl rfl rfl ht2 hwf2)
      (by simp [enter, hfin, hst, hc.stSet]) hok.len.symm hb2 hi
    exact ⟨r1, s3, cx1, wire1, (hnext _ _ _ _ hnf).trans hd, g1, by rw [g2, closed_cons (Or.inr hfin)], g3, g4,
      g5.trans (hf2.trans hf1), Run.data f fs cx cx1 hdata g6, g7, g8⟩
  | ctl f fs hok hctl hacc _ ih =>
    intro r s wire cx hg hc hst hn hb hi
    obtain ⟨s1, hc1, hb1, hf1, hnext, _⟩ := discard_succ cx cb (n + fs.length) hc hst hn hb
    obtain ⟨g, s3, cx1, hnf, hb3, hc3, _, hf3, hi1, he1⟩ := nextFrame_ctl_g hcb cx f (encodeFs fs ++ rest) hc1 hst
      (by rw [hb1, encodeFs_cons]) hok hctl hacc (hg f (List.mem_cons_self ..) hctl) hi
    obtain ⟨r1, s4, cx2, wire1, hd, g1, g2, g3, g4, g5, g6, g7, g8⟩ := ih (afterCtl ({ r with rawN := 0 } : Rd) f.h g) s3 [] cx1
      (fun g hg' => hg g (List.mem_cons_of_mem _ hg')) hc3 hst rfl (by simpa using hb3) hi1
    exact ⟨r1, s4, cx2, wire1, (hnext _ _ _ _ hnf).trans hd, g1, by rw [g2, closed_cons (Or.inl hctl)], g3, g4,
      g5.trans (hf3.trans hf1), Run.ctl f fs cx cx1 cx2 hctl he1 g6, g7, g8⟩

/-- Discard past known frames that leave the message open: the next round of its loop is NextFrame on whatever
    follows them -/
theorem discard_to_next {cb : Option Callback} {S : CtlSpec} (hcb : Handles cb S) {skip : Bool} {st maxF : Nat} (rest : Bytes)
    {fs : List WFrame} (ht : Tail true skip st maxF fs) (hopen : closed fs = false) (n : Nat)
    (r : Rd) (s : Src) (wire : Bytes) (cx : Ctx) (hg : ∀ f ∈ fs, opIsControl f.h.op = true → S.good f)
    (hc : Cfg skip st maxF r s) (hst : r.state = st) (hn : r.rawN = wire.length)
    (hb : s.bytes = wire ++ (encodeFs fs ++ rest)) (hi : S.inv cx) :
    ∃ r1 s1 cx1, Cfg skip st maxF r1 s1 ∧ r1.state = st ∧ s1.bytes = rest ∧ s1.fin = s.fin ∧ Run S.eff fs cx cx1 ∧ S.inv cx1 ∧
      (∀ h r2 s2 cx2, r1.nextFrame s1 cx1 cb = (h, none, r2, s2, cx2) →
        r.discard s cx cb (n + 1 + fs.length) = r2.discard s2 cx2 cb n)
      ∧ (∀ h e r2 s2 cx2, r1.nextFrame s1 cx1 cb = (h, some e, r2, s2, cx2) →
        r.discard s cx cb (n + 1 + fs.length) = (some e, r2.reset, s2, cx2)) := by
  obtain ⟨r1, s1, cx1, wire1, hd, hc1, hst1, hn1, hb1, hf1, hrun, hi1, _⟩ := discard_frames hcb rest ht (n + 1) r s wire cx hg hc hst hn hb hi
  rw [hopen] at hst1
  obtain ⟨s2, hc2, hb2, hf2, hnext, herr⟩ := discard_succ cx1 cb n hc1 hst1 hn1 hb1
  exact ⟨_, s2, cx1, hc2, hst1, hb2, hf2.trans hf1, hrun, hi1, fun h r2 s3 cx2 hx => hd.trans (hnext h r2 s3 cx2 hx),
    fun h e r2 s3 cx2 hx => hd.trans (herr h e r2 s3 cx2 hx)⟩

theorem Tail.closed_of_not_open {skip st maxF fs} (ht : Tail false skip st maxF fs) : closed fs = true := by
  induction ht with
  | opn h => cases h
  | last f _ hd hf _ => simp [closed, hd, hf]
  | cont f fs _ _ hf _ _ ih => rw [closed_cons (Or.inr hf)]; exact ih
  | ctl f fs _ hc _ _ ih => rw [closed_cons (Or.inl hc)]; exact ih

/-- Discard over the rest of a closed message, any handler: `discard_frames` down to the final fragment, then
    `discard_final_frame`. -/
theorem discard_closed {cb : Option Callback} {S : CtlSpec} (hcb : Handles cb S) (skip : Bool) (st maxF : Nat) (rest : Bytes)
    (fs : List WFrame) (ht : Tail false skip st maxF fs) (hg : ∀ f ∈ fs, opIsControl f.h.op = true → S.good f)
    (r : Rd) (s : Src) (wire : Bytes) (fuel : Nat) (cx : Ctx)
    (hc : Cfg skip st maxF r s) (hst : r.state = st) (hn : r.rawN = wire.length) (hb : s.bytes = wire ++ (encodeFs fs ++ rest))
    (hfuel : fs.length < fuel) (hi : S.inv cx) :
    ∃ r' s' cx', r.discard s cx cb fuel = (none, r', s', cx') ∧ s'.bytes = rest ∧ Src.Tame s' ∧ Run S.eff fs cx cx' ∧ S.inv cx'
      ∧ r'.state = stClear st stFragmented ∧ r'.maxFrame = maxF ∧ r'.skipCheck = skip ∧ r'.ext = false
      ∧ r'.checkUTF8 = r.checkUTF8 ∧ r'.utf8 = {} := by
  obtain ⟨n, rfl⟩ : ∃ n, fuel = (n + 1) + fs.length := ⟨fuel - fs.length - 1, by omega⟩
  obtain ⟨r1, s1, cx1, wire1, hd, hc1, hst1, hn1, hb1, _, hrun, hi1, hck⟩ := discard_frames hcb rest ht (n + 1) r s wire cx hg hc hst hn hb hi
  rw [Tail.closed_of_not_open ht, if_pos rfl] at hst1
  obtain ⟨s', hdisc, hb', ht'⟩ := discard_final_frame r1 s1 cx1 cb n wire1 rest (by simp [Rd.fragmented, hst1, hc1.stClr]) hb1 hn1 hc1.tame
  exact ⟨_, s', cx1, hd.trans hdisc, hb', ht', hrun, hi1, hst1, hc1.maxF, hc1.skip, hc1.ext, hck, rfl⟩

end Ws.RdProof
