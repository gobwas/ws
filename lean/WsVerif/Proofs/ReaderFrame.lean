/-
  Frames on the wire and Reader.NextFrame in front of one: reading a header off a chunked transport, what
  NextFrame does with an accepted data frame and with an interleaved control frame, and the specification
  of an OnIntermediate handler (`CtlSpec`, `Handles`) that the stream-level theorems are stated for.
  NextFrame is used through its stages (Proofs/NextFrame), never unfolded.
-/
import WsVerif.Proofs.ReaderRead
import WsVerif.Proofs.NextFrame
import WsVerif.Props.C01
namespace Ws.RdProof
open Ws Ws.Spec

theorem readHeaderUtil_readFull (s : Src) :
    (readHeaderUtil s).2 = (s.readFull 2).2 ∨ ∃ n, (readHeaderUtil s).2 = ((s.readFull 2).2.readFull n).2 := by
  unfold readHeaderUtil
  split
  · next h => rw [h]; exact Or.inl rfl
  · next h =>
    rw [h]; dsimp only
    split
    · exact Or.inl rfl
    · split
      · exact Or.inl rfl
      · split
        · next h2 => exact Or.inr ⟨_, by rw [h2]⟩
        · next h2 => exact Or.inr ⟨_, by rw [h2]⟩
  · next h => rw [h]; exact Or.inl rfl

theorem readHeaderUtil_src (s : Src) :
    (readHeaderUtil s).2.chunks.length ≤ s.chunks.length ∧ (readHeaderUtil s).2.dataWithFin = s.dataWithFin
    ∧ (readHeaderUtil s).2.fin = s.fin := by
  have h1 := s.readFull_src 2
  rcases readHeaderUtil_readFull s with h | ⟨n, h⟩
  · rw [h]; exact h1
  · have h2 := (s.readFull 2).2.readFull_src n
    rw [h]; exact ⟨by omega, by rw [h2.2.1, h1.2.1], by rw [h2.2.2, h1.2.2]⟩

theorem readHeaderUtil_fin (s : Src) : (readHeaderUtil s).2.fin = s.fin := (readHeaderUtil_src s).2.2

theorem rfcSize_ge2 (h : Header) : 2 ≤ rfcSize h := by
  unfold rfcSize; split <;> split <;> omega

/-- Reading a header off any chunking of the transport: the header, not one byte more, and the
    transport strictly smaller. -/
theorem readHeader_ok (h : Header) (hw : h.WF) (tail : Bytes) (htw : Bytes.WF tail) (s : Src)
    (hs : s.bytes = rfcEncode h ++ tail) (htame : Src.Tame s) :
    ∃ s1, readHeaderUtil s = (.ok h, s1) ∧ s1.bytes = tail ∧ Src.Tame s1 ∧ mu s1 < mu s := by
  obtain ⟨h1, h2, h3⟩ := C01.read_write h hw tail htw s hs
  have hsrc := readHeaderUtil_src s
  rw [C01.readers_agree] at hsrc
  refine ⟨(readHeaderWs s).2, ?_, h2, ?_, ?_⟩
  · rw [C01.readers_agree]; exact Prod.ext h1 rfl
  · exact htame.of_end h3 hsrc.2.1
  · unfold mu
    rw [h2, hs, List.length_append, C01.rfc_len]
    have := rfcSize_ge2 h
    omega

/-- a frame on the wire: its header and its payload as sent, masked if the header says so -/
structure WFrame where
  h : Header
  wire : Bytes

def WFrame.enc (f : WFrame) : Bytes := rfcEncode f.h ++ f.wire
def encodeFs (fs : List WFrame) : Bytes := (fs.map WFrame.enc).flatten
def WFrame.plain (f : WFrame) : Bytes := if f.h.masked then xorSpec f.wire f.h.mask 0 else f.wire

theorem encodeFs_cons (f : WFrame) (fs : List WFrame) (rest : Bytes) :
    encodeFs (f :: fs) ++ rest = rfcEncode f.h ++ (f.wire ++ (encodeFs fs ++ rest)) := by
  simp [encodeFs, WFrame.enc, List.append_assoc]

theorem encodeFs_len_ge (fs : List WFrame) : fs.length ≤ (encodeFs fs).length := by
  induction fs with
  | nil => simp [encodeFs]
  | cons f fs ih =>
    have h2 : 2 ≤ (rfcEncode f.h).length := C01.rfc_len f.h ▸ rfcSize_ge2 f.h
    have : (encodeFs (f :: fs)).length = (rfcEncode f.h).length + f.wire.length + (encodeFs fs).length := by
      simp [encodeFs, WFrame.enc, Nat.add_assoc]
    rw [this]; simp only [List.length_cons]; omega

structure WFrame.OK (f : WFrame) : Prop where
  hwf : f.h.WF
  len : f.wire.length = f.h.len
  wwf : Bytes.WF f.wire
  mwf : f.h.mask.WF

theorem WFrame.plain_eq (f : WFrame) (r : Rd) (c : Bool) : f.plain = plainOf (NF.armed r f.h c) f.wire := rfl

theorem WFrame.OK.plain_length {f : WFrame} (h : f.OK) : f.plain.length = f.h.len := by
  rw [f.plain_eq default false, plainOf_length, h.len]

theorem WFrame.OK.plain_wf {f : WFrame} (h : f.OK) : Bytes.WF f.plain :=
  plainOf_wf (NF.armed default f.h false) h.mwf f.wire h.wwf

theorem encodeFs_wf (fs : List WFrame) (h : ∀ f ∈ fs, f.OK) : Bytes.WF (encodeFs fs) := by
  induction fs with
  | nil => intro b hb; simp [encodeFs] at hb
  | cons f fs ih =>
    intro b hb
    simp only [encodeFs, List.map_cons, List.flatten_cons, WFrame.enc, List.mem_append] at hb
    rcases hb with (hb | hb) | hb
    · exact C01.rfcEncode_wf f.h (h f (by simp)).hwf b hb
    · exact (h f (by simp)).wwf b hb
    · exact ih (fun g hg => h g (by simp [hg])) b hb

def Accepts (r : Rd) (h : Header) : Prop :=
  (if r.skipCheck then none else checkHeader h r.state) = none ∧ ¬ (r.maxFrame > 0 ∧ h.len > r.maxFrame)

/-- the reader after NextFrame installed a data frame -/
def enter (r : Rd) (h : Header) : Rd :=
  { r with rawN := h.len, masked := h.masked, mask := h.mask, cpos := 0, hasFrame := true,
           utf8on := r.checkUTF8 && (h.op == opText || (r.fragmented && r.opCode == opText)),
           opCode := if r.fragmented then r.opCode else h.op,
           state := if h.fin then stClear r.state stFragmented else stSet r.state stFragmented }

theorem WFrame.plain_enter (f : WFrame) (r : Rd) : plainOf (enter r f.h) f.wire = f.plain := rfl

/-- the reader after an intermediate control frame was skipped (no OnIntermediate); it is `RdCb.afterCtl r h 0` -/
def skipCtl (r : Rd) (h : Header) : Rd :=
  { r with rawN := 0, masked := h.masked, mask := h.mask, cpos := 0, utf8on := false }

end Ws.RdProof

namespace Ws.RdCb
open Ws

/-- the reader after an intermediate control frame was handed to a handler that read `n` bytes of it, and drained -/
def afterCtl (r : Rd) (h : Header) (n : Nat) : Rd :=
  { r with rawN := 0, masked := h.masked, mask := h.mask, cpos := if h.masked then n else 0, utf8on := false }

end Ws.RdCb

namespace Ws.RdProof
open Ws Ws.Spec Ws.RdCb

theorem entered_armed (r : Rd) (h : Header) : NF.entered (NF.armed r h r.compressed) h = enter r h := by
  obtain ⟨st, sk, ck, ext, comp, mf, op, hf, rn, mk, m, cp, uo, u⟩ := r
  simp only [NF.entered, NF.armed, enter, Rd.fragmented]
  by_cases hfr : stIs st stFragmented = true <;> simp [hfr]

theorem nextFrame_enter (r : Rd) (s s1 : Src) (cx : Ctx) (cb : Option Callback) (h : Header)
    (hh : readHeaderUtil s = (.ok h, s1)) (ha : Accepts r h) (hext : r.ext = false)
    (hno : (r.fragmented && opIsControl h.op) = false) :
    r.nextFrame s cx cb = (some h, none, enter r h, s1, cx) := by
  rw [NF.nextFrame_ok hh, NF.accept_enter (NF.gate_plain ha.1 ha.2 hext) hno, entered_armed]

theorem nextFrame_data (r : Rd) (s s1 : Src) (cx : Ctx) (cb : Option Callback) (h : Header)
    (hh : readHeaderUtil s = (.ok h, s1)) (ha : Accepts r h) (hext : r.ext = false)
    (hdata : opIsControl h.op = false) :
    r.nextFrame s cx cb = (some h, none, enter r h, s1, cx) :=
  nextFrame_enter r s s1 cx cb h hh ha hext (by rw [hdata, Bool.and_false])

theorem nextFrame_ctl_eq (r : Rd) (s s1 : Src) (cx : Ctx) (cb : Option Callback) (h : Header)
    (hh : readHeaderUtil s = (.ok h, s1)) (ha : Accepts r h) (hext : r.ext = false)
    (hctl : opIsControl h.op = true) (hfrag : r.fragmented = true) :
    r.nextFrame s cx cb = NF.ctl cb h (NF.armed r h r.compressed) s1 cx := by
  rw [NF.nextFrame_ok hh, NF.accept_ctl (NF.gate_plain ha.1 ha.2 hext) hfrag hctl]

theorem afterCtl_eq (r : Rd) (h : Header) (g : Nat) :
    ({ adv (NF.armed r h r.compressed) g with rawN := 0 } : Rd) = afterCtl r h g := by
  cases hm : h.masked <;> simp [adv, NF.armed, afterCtl, hm]

theorem nextFrame_ctl (r : Rd) (s s1 : Src) (cx : Ctx) (f : WFrame) (tail : Bytes)
    (hh : readHeaderUtil s = (.ok f.h, s1)) (ha : Accepts r f.h) (hext : r.ext = false)
    (hctl : opIsControl f.h.op = true) (hfrag : r.fragmented = true)
    (hb : s1.bytes = f.wire ++ tail) (hlen : f.wire.length = f.h.len) (htame : Src.Tame s1) :
    ∃ s3, r.nextFrame s cx none = (some f.h, none, skipCtl r f.h, s3, cx) ∧ s3.bytes = tail ∧ Src.Tame s3
      ∧ mu s3 ≤ mu s1 := by
  obtain ⟨s3, hd, hb3, ht3, _, hmu3⟩ := drain_frame (NF.armed r f.h r.compressed) s1 hb hlen.symm htame
  refine ⟨s3, ?_, hb3, ht3, hmu3⟩
  rw [nextFrame_ctl_eq r s s1 cx none f.h hh ha hext hctl hfrag]
  simp only [NF.ctl, hd]; rfl

structure CtlSpec where
  /-- the interleaved control frames the handler is specified on -/
  good : WFrame → Prop
  /-- what each call needs of the context and re-establishes -/
  inv : Ctx → Prop
  /-- the effect of handling one frame on the context -/
  eff : WFrame → Ctx → Ctx → Prop

/-- `o` copes with every good interleaved control frame: handler and drain together report no error, consume
    exactly the frame, and touch nothing of the reader but the position inside the frame -/
def Handles (o : Option Callback) (S : CtlSpec) : Prop :=
  ∀ (f : WFrame) (r : Rd) (s : Src) (cx : Ctx) (tail : Bytes),
    f.OK → opIsControl f.h.op = true → S.good f → S.inv cx → InFrame0 (NF.armed r f.h r.compressed) s f.wire tail →
    ∃ g s' cx', NF.ctl o f.h (NF.armed r f.h r.compressed) s cx = (some f.h, none, afterCtl r f.h g, s', cx')
      ∧ s'.bytes = tail ∧ Src.Tame s' ∧ s'.fin = s.fin ∧ mu s' ≤ mu s ∧ S.inv cx' ∧ S.eff f cx cx'

theorem handles_of_reads (cb : Callback) (S : CtlSpec)
    (h : ∀ (f : WFrame) (r : Rd) (s : Src) (cx : Ctx) (tail : Bytes),
      f.OK → opIsControl f.h.op = true → S.good f → S.inv cx → InFrame0 (NF.armed r f.h r.compressed) s f.wire tail →
      ∃ g s' cx', cb f.h (NF.armed r f.h r.compressed) s cx = ⟨none, adv (NF.armed r f.h r.compressed) g, s', cx'⟩
        ∧ s'.bytes = f.wire.drop g ++ tail ∧ Src.Tame s' ∧ s'.fin = s.fin ∧ mu s' ≤ mu s
        ∧ S.inv cx' ∧ S.eff f cx cx') :
    Handles (some cb) S := by
  intro f r s cx tail hok hctl hg hi hin
  obtain ⟨g, s2, cx', hres, hb2, ht2, hf2, hmu2, hi', he'⟩ := h f r s cx tail hok hctl hg hi hin
  obtain ⟨s3, hd, hb3, ht3, hf3, hmu3⟩ := drain_frame (adv (NF.armed r f.h r.compressed) g) s2 hb2
    (hin.advance g hb2 ht2).n ht2
  refine ⟨g, s3, cx', ?_, hb3, ht3, hf3.trans hf2, by omega, hi', he'⟩
  simp only [NF.ctl, hres, hd, afterCtl_eq]

def noHandler : CtlSpec := ⟨fun _ => True, fun _ => True, fun _ cx cx' => cx' = cx⟩

theorem handles_none : Handles none noHandler := by
  intro f r s cx tail hok _ _ _ hin
  obtain ⟨s3, hd, hb3, ht3, hf3, hmu3⟩ := drain_frame (NF.armed r f.h r.compressed) s hin.bytes hin.n hin.tame
  refine ⟨0, s3, cx, ?_, hb3, ht3, hf3, hmu3, trivial, rfl⟩
  simp only [NF.ctl, hd]
  rw [← afterCtl_eq, adv_zero]

/-- where no control frame is interleaved the handler is never called: any setting will do -/
def neverCalled : CtlSpec := ⟨fun _ => False, fun _ => True, fun _ cx cx' => cx' = cx⟩

theorem handles_any (cb : Option Callback) : Handles cb neverCalled := fun _ _ _ _ _ _ _ hg => hg.elim

theorem readHeader_at (h : Header) (hw : h.WF) (tail : Bytes) (s : Src) (hb : s.bytes = rfcEncode h ++ tail)
    (hwf : Bytes.WF s.bytes) (ht : Src.Tame s) :
    ∃ s1, readHeaderUtil s = (.ok h, s1) ∧ s1.bytes = tail ∧ Bytes.WF s1.bytes ∧ Src.Tame s1 ∧ mu s1 < mu s
      ∧ s1.fin = s.fin := by
  have hwt : Bytes.WF tail := (Bytes.wf_append.mp (hb ▸ hwf)).2
  obtain ⟨s1, h1, h2, h3, h4⟩ := readHeader_ok h hw _ hwt s hb ht
  exact ⟨s1, h1, h2, h2 ▸ hwt, h3, h4, by have := readHeaderUtil_fin s; rw [h1] at this; exact this⟩

theorem nextFrame_at (r : Rd) (s : Src) (cx : Ctx) (cb : Option Callback) (h : Header) (tail : Bytes)
    (hext : r.ext = false) (hb : s.bytes = rfcEncode h ++ tail) (hwf : Bytes.WF s.bytes) (ht : Src.Tame s) (hw : h.WF)
    (hacc : Accepts r h) (hno : (r.fragmented && opIsControl h.op) = false) :
    ∃ s1, r.nextFrame s cx cb = (some h, none, enter r h, s1, cx)
      ∧ s1.bytes = tail ∧ Bytes.WF s1.bytes ∧ Src.Tame s1 ∧ mu s1 < mu s ∧ s1.fin = s.fin := by
  obtain ⟨s1, hrh, rest⟩ := readHeader_at h hw tail s hb hwf ht
  exact ⟨s1, nextFrame_enter r s s1 cx cb h hrh hacc hext hno, rest⟩

theorem nextFrame_data_at (r : Rd) (s : Src) (cx : Ctx) (cb : Option Callback) (f : WFrame) (tail : Bytes)
    (hext : r.ext = false) (hu8 : r.checkUTF8 = false) (hb : s.bytes = rfcEncode f.h ++ (f.wire ++ tail))
    (hwf : Bytes.WF s.bytes) (ht : Src.Tame s) (hok : f.OK) (hdata : opIsControl f.h.op = false) (hacc : Accepts r f.h) :
    ∃ s1, r.nextFrame s cx cb = (some f.h, none, enter r f.h, s1, cx) ∧ InFrame (enter r f.h) s1 f.wire tail
      ∧ mu s1 < mu s ∧ s1.fin = s.fin := by
  obtain ⟨s1, hnf, hb1, hwf1, ht1, hmu1, hf1⟩ := nextFrame_at r s cx cb f.h _ hext hb hwf ht hok.hwf hacc
    (by rw [hdata, Bool.and_false])
  exact ⟨s1, hnf, ⟨rfl, by simp [enter, hu8], hb1, hok.len.symm, hwf1, hok.mwf, ht1⟩, hmu1, hf1⟩

end Ws.RdProof
