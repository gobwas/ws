/-
  bufio.Reader / readLine: bytes are conserved — whatever readLine hands out plus whatever stays
  buffered or unread is exactly what the transport holds, in order.
-/
import WsVerif.Model.Http
namespace Ws

/-- Everything still readable through a bufio.Reader: buffered bytes, then the source. -/
def Bufio.all (b : Bufio) : Bytes := b.buf ++ b.src.bytes

theorem Bufio.fill_go_all (fuel : Nat) (b : Bufio) : (Bufio.fill.go fuel b).all = b.all := by
  induction fuel generalizing b with
  | zero => simp [Bufio.fill.go, Bufio.all]
  | succ n ih =>
    unfold Bufio.fill.go
    simp only
    have hc := Src.read_conserve b.src (b.cap - b.buf.length)
    split
    · simp only [Bufio.all]; rw [hc]; simp [List.append_assoc]
    · split
      · rw [ih]; simp only [Bufio.all]; rw [hc]; simp [List.append_assoc]
      · simp only [Bufio.all]; rw [hc]; simp [List.append_assoc]

theorem Bufio.fill_all (b : Bufio) : b.fill.all = b.all := Bufio.fill_go_all 100 b

theorem idxOf?_split (l : Bytes) (c i : Nat) (h : l.idxOf? c = some i) :
    l = l.take (i + 1) ++ l.drop (i + 1) := (List.take_append_drop _ _).symm

theorem take_idxOf?_succ {l : Bytes} {c i : Nat} (h : l.idxOf? c = some i) :
    l.take (i + 1) = l.take i ++ [c] ∧ c ∉ l.take i := by
  obtain ⟨hlt, hc, hbefore⟩ := List.idxOf?_eq_some_iff.mp h
  refine ⟨by rw [List.take_add_one, List.getElem?_eq_getElem hlt, hc]; rfl, fun hm => ?_⟩
  obtain ⟨j, hj, hget⟩ := List.getElem_of_mem hm
  rw [List.length_take] at hj
  rw [List.getElem_take] at hget
  exact hbefore j (by omega) hget

theorem idxOf?_append_cons {a : Bytes} {c : Nat} (rest : Bytes) (h : c ∉ a) :
    (a ++ c :: rest).idxOf? c = some a.length := by
  rw [List.idxOf?_eq_some_iff]
  refine ⟨by simp, by simp, fun j hj => ?_⟩
  rw [List.getElem_append_left (by simpa using hj)]
  exact fun he => h (he ▸ List.getElem_mem _)

theorem Bufio.readSlice_all (b : Bufio) (fuel : Nat) :
    b.all = (b.readSlice fuel).1 ++ (b.readSlice fuel).2.2.all := by
  -- the ways out of `readSlice`: out of fuel; an LF in the buffer (2); none, and the transport has ended; none, and
  -- the buffer is full; fill and retry (5)
  fun_induction Bufio.readSlice b fuel
  case case2 => simp [Bufio.all, ← List.append_assoc]
  case case5 ih => rw [← ih, Bufio.fill_all]
  all_goals simp [Bufio.all]

theorem readSlice_none_lf {fuel : Nat} {b b' : Bufio} {bts : Bytes} (h : b.readSlice fuel = (bts, none, b')) :
    ∃ pre, bts = pre ++ [10] ∧ 10 ∉ pre := by
  -- of the ways out of `readSlice` (see `readSlice_all`) only an LF in the buffer (2) reports no error; (5) is the retry
  fun_induction Bufio.readSlice b fuel with
  | case2 b fuel i hi => cases h; exact ⟨_, take_idxOf?_succ hi⟩
  | case5 _ _ _ _ _ ih => exact ih h
  | _ => cases h

/-- The line without the LF or CRLF it ends in (the last step of readLine). -/
def stripEol (l : Bytes) : Bytes :=
  if l.length > 1 ∧ l.getD (l.length - 2) 0 = 13 then l.take (l.length - 2) else l.take (l.length - 1)

theorem stripEol_eol (q : Bytes) :
    ∃ eol, (eol = [10] ∨ eol = [13, 10]) ∧ q ++ [10] = stripEol (q ++ [10]) ++ eol := by
  rcases q.eq_nil_or_concat with rfl | ⟨q', c, rfl⟩
  · exact ⟨[10], .inl rfl, by simp [stripEol]⟩
  · rw [List.concat_eq_append]
    have hlen : (q' ++ [c] ++ [10]).length - 2 = q'.length := by simp
    have hget : (q' ++ [c] ++ [10]).getD q'.length 0 = c := by simp [List.getD_eq_getElem?_getD]
    by_cases hc : c = 13
    · refine ⟨[13, 10], .inr rfl, ?_⟩
      rw [stripEol, hlen, hget, if_pos ⟨by simp, hc⟩, hc]
      simp
    · refine ⟨[10], .inl rfl, ?_⟩
      rw [stripEol, hlen, hget, if_neg (fun h => hc h.2), List.length_append (as := q' ++ [c]), List.length_singleton,
        Nat.add_sub_cancel, List.take_left' rfl]

theorem readLine_go_succ (fuel : Nat) (b : Bufio) (line : Bytes) :
    readLine.go (fuel + 1) b line = match b.readSlice b.fuel with
      | (bts, some .bufferFull, b') => readLine.go fuel b' (line ++ bts)
      | (bts, some (.io f), b') => (line ++ bts, some f, b')
      | (bts, none, b') => (stripEol (line ++ bts), none, b') := by
  rw [readLine.go]
  rcases b.readSlice b.fuel with ⟨bts, _ | _ | f, b'⟩
  · simp only [stripEol]; split <;> rfl
  · rfl
  · rfl

theorem readLine_go_all (fuel : Nat) (b : Bufio) (line : Bytes) :
    ((readLine.go fuel b line).2.1.isSome → line ++ b.all = (readLine.go fuel b line).1 ++ (readLine.go fuel b line).2.2.all) ∧
    ((readLine.go fuel b line).2.1 = none → ∃ eol, (eol = [10] ∨ eol = [13, 10]) ∧
        line ++ b.all = (readLine.go fuel b line).1 ++ (eol ++ (readLine.go fuel b line).2.2.all)) := by
  induction fuel generalizing b line with
  | zero => simp [readLine.go]
  | succ n ih =>
    have hc := Bufio.readSlice_all b b.fuel
    rw [readLine_go_succ]
    rcases hrs : b.readSlice b.fuel with ⟨bts, _ | _ | f, b'⟩
    all_goals rw [hrs] at hc; simp only at hc ⊢; rw [hc]
    · obtain ⟨pre, rfl, _⟩ := readSlice_none_lf hrs
      obtain ⟨eol, heol, hq⟩ := stripEol_eol (line ++ pre)
      refine ⟨nofun, fun _ => ⟨eol, heol, ?_⟩⟩
      simp only [← List.append_assoc]
      rw [← hq]
    · rw [← List.append_assoc]
      exact ih b' (line ++ bts)
    · exact ⟨fun _ => (List.append_assoc ..).symm, nofun⟩

/-- readLine conserves bytes: on success `line ++ LF|CRLF ++ rest`, on error `partial ++ rest`. -/
theorem readLine_all (b : Bufio) :
    ((readLine b).2.1.isSome → b.all = (readLine b).1 ++ (readLine b).2.2.all) ∧
    ((readLine b).2.1 = none → ∃ eol, (eol = [10] ∨ eol = [13, 10]) ∧
        b.all = (readLine b).1 ++ (eol ++ (readLine b).2.2.all)) := by
  have := readLine_go_all (b.buf.length + b.src.bytes.length + 4) b []
  simpa [readLine] using this

theorem readLine_suffix {b b' : Bufio} {l : Bytes} {e : Option Fin} (h : readLine b = (l, e, b')) :
    b'.all <:+ b.all := by
  obtain ⟨h1, h2⟩ := readLine_all b
  rw [h] at h1 h2
  cases e with
  | some f => exact ⟨l, (h1 rfl).symm⟩
  | none =>
    obtain ⟨eol, _, hc⟩ := h2 rfl
    exact ⟨l ++ eol, by rw [hc, List.append_assoc]⟩

end Ws
