/- Lemmas for C01: the bit operations on the two fixed bytes as arithmetic (tables the kernel checks),
   big-endian digits, and both decoders (§5.2's `rfcDecode`, ReadHeader's `hdrFinish`) on a header
   laid out in full. -/
import WsVerif.Spec.Header
namespace Ws
open Ws.Spec

theorem byte_bits : ∀ b < 256,
    (b &&& 0x80 != 0) = (b / 128 % 2 == 1) ∧ (b &&& 0x70) >>> 4 = b / 16 % 8
      ∧ b &&& 0x0f = b % 16 ∧ b &&& 0x7f = b % 128 := by decide +kernel

theorem b0_encode : ∀ (f : Bool), ∀ r < 8, ∀ o < 16,
    (((if f then bit0 else 0) ||| ((r <<< 4) % 256)) ||| (o % 256)) = 128 * b2n f + 16 * r + o := by
  decide +kernel

theorem b1_mask : ∀ b < 128, (b ||| bit0) = 128 + b := by decide +kernel

theorem digitsBE_length (k v : Nat) : (digitsBE k v).length = k := by
  induction k with
  | zero => rfl
  | succ k ih => simp [digitsBE, ih]

theorem digitsBE_wf (k v : Nat) : Bytes.WF (digitsBE k v) := by
  induction k with
  | zero => exact Bytes.WF.nil
  | succ k ih => exact Bytes.wf_cons.mpr ⟨Nat.mod_lt _ (by omega), ih⟩

theorem beVal_digitsBE (k v : Nat) : beVal (digitsBE k v) = v % 256 ^ k := by
  induction k with
  | zero => simp [digitsBE, beVal, Nat.mod_one]
  | succ k ih =>
    rw [digitsBE, beVal, digitsBE_length, ih, Nat.mod_pow_succ]
    rw [Nat.mul_comm, Nat.add_comm]

theorem beVal_lt {l : Bytes} (h : Bytes.WF l) : beVal l < 256 ^ l.length := by
  induction l with
  | nil => simp [beVal]
  | cons b bs ih =>
    obtain ⟨hb, hbs⟩ := Bytes.wf_cons.mp h
    have := ih hbs
    simp only [beVal, List.length_cons, Nat.pow_succ]
    have : b * 256 ^ bs.length ≤ 255 * 256 ^ bs.length := Nat.mul_le_mul_right _ (by omega)
    omega

/-- Number of extended-length bytes announced by the 7-bit length code. `Spec.rfcDecode` writes this
    `if` out inline; `rfcDecode_layout` is where the two meet. -/
def extLen (l7 : Nat) : Nat := if l7 < 126 then 0 else if l7 = 126 then 2 else 8

theorem rfcDecode_layout (b0 b1 : Nat) (ext mk rest : Bytes)
    (hext : ext.length = extLen (b1 % 128))
    (hmk : mk.length = if (b1 / 128 % 2 == 1) = true then 4 else 0) :
    rfcDecode (b0 :: b1 :: (ext ++ (mk ++ rest))) =
      if b1 % 128 = 127 ∧ beVal ext ≥ 2 ^ 63 then .msb
      else .ok ⟨b0 / 128 % 2 == 1, b0 / 16 % 8, b0 % 16, b1 / 128 % 2 == 1,
                if (b1 / 128 % 2 == 1) = true then
                  ⟨(mk ++ rest).getD 0 0, (mk ++ rest).getD 1 0, (mk ++ rest).getD 2 0, (mk ++ rest).getD 3 0⟩
                else Mask.zero,
                if b1 % 128 < 126 then b1 % 128 else beVal ext⟩ (2 + ext.length + mk.length) := by
  unfold rfcDecode
  simp only
  rw [show (if b1 % 128 < 126 then 0 else if b1 % 128 = 126 then 2 else 8) = ext.length from hext.symm,
    ← hmk, List.take_left, List.drop_left]
  rw [if_neg (by simp only [List.length_append]; omega)]
  by_cases h7 : b1 % 128 = 127
  · simp [h7]
  · simp [h7]

theorem len7code_lt (len : Nat) : len7code len < 128 := by
  unfold len7code; split <;> (try split) <;> omega

theorem lenExt_length (len : Nat) : (lenExt len).length = extLen (len7code len) := by
  unfold lenExt len7code extLen
  split
  · rw [if_pos (by omega)]; rfl
  · split <;> simp [digitsBE_length]

theorem lenExt_val (len : Nat) (h : len < 2 ^ 64) :
    (if len7code len < 126 then len7code len else beVal (lenExt len)) = len := by
  unfold lenExt len7code
  split
  · rw [if_pos (by omega)]
  · split
    · rw [if_neg (by omega), beVal_digitsBE]; omega
    · rw [if_neg (by omega), beVal_digitsBE]; omega

theorem b0_fields (f : Bool) {r o : Nat} (hr : r < 8) (ho : o < 16) :
    ((128 * b2n f + 16 * r + o) / 128 % 2 == 1) = f ∧ (128 * b2n f + 16 * r + o) / 16 % 8 = r
      ∧ (128 * b2n f + 16 * r + o) % 16 = o := by
  cases f <;> simp [b2n] <;> omega

theorem b1_fields (m : Bool) {c : Nat} (hc : c < 128) :
    ((128 * b2n m + c) / 128 % 2 == 1) = m ∧ (128 * b2n m + c) % 128 = c := by
  cases m <;> simp [b2n] <;> omega

theorem hdrExtra_eq (h2 : Hdr2) :
    hdrExtra h2 = if h2.length ≤ 127 then .ok ((if h2.masked then 4 else 0) + extLen h2.length)
                  else .error .lengthUnexpected := by
  unfold hdrExtra extLen
  by_cases h1 : h2.length < 126
  · simp [h1, show h2.length ≤ 127 by omega]
  · by_cases h2' : h2.length = 126
    · simp [h2']
    · by_cases h3 : h2.length = 127
      · simp [h3]
      · simp [h1, h2', h3, show ¬ h2.length ≤ 127 by omega]

theorem maskOf_of_length (l : Bytes) (h : 4 ≤ l.length) :
    maskOf l = some ⟨l.getD 0 0, l.getD 1 0, l.getD 2 0, l.getD 3 0⟩ := by
  match l, h with
  | a :: b :: c :: d :: _, _ => rfl

theorem hdrFinish_layout (h2 : Hdr2) (ext mk : Bytes) (h7 : h2.length ≤ 127)
    (hext : ext.length = extLen h2.length) (hmk : mk.length = if h2.masked then 4 else 0) :
    hdrFinish h2 (ext ++ mk) =
      if h2.length = 127 ∧ (ext.headD 0 &&& 0x80 != 0) = true then .error .lengthMSB
      else .ok ⟨h2.fin, h2.rsv, h2.op, h2.masked,
                if h2.masked then ⟨mk.getD 0 0, mk.getD 1 0, mk.getD 2 0, mk.getD 3 0⟩ else Mask.zero,
                if h2.length < 126 then h2.length else beVal ext⟩ := by
  have hmo : h2.masked = true →
      maskOf mk = some ⟨mk.getD 0 0, mk.getD 1 0, mk.getD 2 0, mk.getD 3 0⟩ := fun hm =>
    maskOf_of_length mk (by rw [hm] at hmk; simp at hmk; omega)
  unfold hdrFinish extLen at *
  simp only
  by_cases h1 : h2.length < 126
  · have : ext = [] := List.eq_nil_of_length_eq_zero (by rw [hext, if_pos h1])
    subst this
    have h127 : ¬ h2.length = 127 := by omega
    rw [if_neg (show ¬ h2.length = 126 by omega), if_neg h127]
    cases hm : h2.masked <;> simp [hm, hmo, h1, h127]
  · by_cases h6 : h2.length = 126
    · have hl : ext.length = 2 := by rw [hext, h6]; rfl
      rw [if_pos h6, if_neg (by simp only [List.length_append]; omega), List.take_left' hl,
        List.drop_left' hl]
      cases hm : h2.masked <;> simp [hm, hmo, h6]
    · have h127 : h2.length = 127 := by omega
      have hl : ext.length = 8 := by rw [hext, h127]; rfl
      rw [if_neg h6, if_pos h127]
      match ext, hl with
      | t0 :: tl, hl =>
        simp only [List.cons_append, List.headD_cons, h127, true_and]
        split
        · rfl
        · rw [if_neg (by simp only [List.length_cons, List.length_append] at hl ⊢; omega),
            ← List.cons_append, List.take_left' hl, List.drop_left' hl]
          cases hm : h2.masked <;> simp [hm, hmo]

theorem hdrFinish_no_fault {h2 : Hdr2} {extra : Nat} {bts : Bytes} (he : hdrExtra h2 = .ok extra)
    (hl : bts.length = extra) : hdrFinish h2 bts ≠ .error .fault := by
  rw [hdrExtra_eq] at he
  split at he
  · rename_i h7
    injection he with he
    rw [← List.take_append_drop (extLen h2.length) bts,
      hdrFinish_layout h2 _ _ h7 (by rw [List.length_take]; omega) (by rw [List.length_drop]; omega)]
    split <;> simp
  · cases he

theorem beVal_msb (ext : Bytes) (hw : Bytes.WF ext) (hl : ext.length = 8) :
    (ext.headD 0 &&& 0x80 != 0) = true ↔ beVal ext ≥ 2 ^ 63 := by
  match ext, hl with
  | t0 :: tl, hl =>
    obtain ⟨ht, htl⟩ := Bytes.wf_cons.mp hw
    have hlt := beVal_lt htl
    have h7 : tl.length = 7 := by simpa using hl
    rw [h7] at hlt
    simp only [List.headD_cons, (byte_bits _ ht).1, beVal, h7, beq_iff_eq]
    omega

theorem hdrFirst_eq {b0 b1 : Nat} (h0 : b0 < 256) (h1 : b1 < 256) :
    hdrFirst b0 b1 = ⟨b0 / 128 % 2 == 1, b0 / 16 % 8, b0 % 16, b1 / 128 % 2 == 1, b1 % 128⟩ := by
  obtain ⟨a1, a2, a3, _⟩ := byte_bits _ h0
  obtain ⟨c1, _, _, c4⟩ := byte_bits _ h1
  simp only [hdrFirst, bit0, a1, a2, a3, c1, c4]

/-- `hdrFinish` on the `extra` bytes after the two fixed ones answers as the §5.2 decoder does on the
    whole header (which is never incomplete then). -/
def FinishAgrees (b0 b1 : Nat) (rest : Bytes) (extra : Nat) : Prop :=
  match rfcDecode (b0 :: b1 :: rest) with
  | .ok h k => hdrFinish (hdrFirst b0 b1) (rest.take extra) = .ok h ∧ k = 2 + extra
  | .msb => hdrFinish (hdrFirst b0 b1) (rest.take extra) = .error .lengthMSB
  | .incomplete => False

theorem finishAgrees_layout (b0 b1 : Nat) (ext mk tl : Bytes) (h0 : b0 < 256) (h1 : b1 < 256)
    (hw : Bytes.WF ext) (hext : ext.length = extLen (b1 % 128))
    (hmk : mk.length = if (b1 / 128 % 2 == 1) = true then 4 else 0) :
    FinishAgrees b0 b1 (ext ++ (mk ++ tl)) (ext.length + mk.length) := by
  have h7 : b1 % 128 ≤ 127 := by omega
  unfold FinishAgrees
  rw [rfcDecode_layout b0 b1 ext mk tl hext hmk, ← List.append_assoc, List.take_left' (by simp),
    hdrFirst_eq h0 h1, hdrFinish_layout _ ext mk h7 hext hmk]
  have hmsb : (b1 % 128 = 127 ∧ (ext.headD 0 &&& 0x80 != 0) = true) ↔ (b1 % 128 = 127 ∧ beVal ext ≥ 2 ^ 63) :=
    and_congr_right fun a => beVal_msb ext hw (by rw [hext, a]; rfl)
  simp only [hmsb]
  by_cases hm : b1 % 128 = 127 ∧ beVal ext ≥ 2 ^ 63
  · simp only [if_pos hm]
  · simp only [if_neg hm]
    refine ⟨?_, by omega⟩
    cases hmsk : (b1 / 128 % 2 == 1)
    · simp
    · rw [hmsk] at hmk
      match mk, hmk with
      | [a, b, c, d], _ => simp

/-- What `C01.readWs_decode` takes from this file: after the two fixed bytes `hdrExtra` asks for exactly the bytes
    §5.2 says are still to come. -/
theorem finish_decode (b0 b1 : Nat) (rest : Bytes) (h0 : b0 < 256) (h1 : b1 < 256)
    (hr : Bytes.WF rest) :
    ∃ extra, hdrExtra (hdrFirst b0 b1) = .ok extra ∧
      (rest.length < extra → rfcDecode (b0 :: b1 :: rest) = .incomplete) ∧
      (extra ≤ rest.length → FinishAgrees b0 b1 rest extra) := by
  generalize hnl : extLen (b1 % 128) = nl
  generalize hnm : (if (b1 / 128 % 2 == 1) = true then 4 else 0) = nm
  refine ⟨nm + nl, ?_, ?_, ?_⟩
  · simp only [hdrFirst_eq h0 h1, hdrExtra_eq]
    rw [if_pos (by omega), hnl, hnm]
  · intro hlt
    unfold rfcDecode
    simp only
    rw [if_pos (by unfold extLen at hnl; omega)]
  · intro hge
    have := finishAgrees_layout b0 b1 (rest.take nl) ((rest.drop nl).take nm) (rest.drop (nl + nm)) h0 h1
      (hr.take nl) (by rw [List.length_take, hnl]; omega)
      (by rw [List.length_take, List.length_drop, hnm]; omega)
    rw [← List.drop_drop, List.take_append_drop, List.take_append_drop,
      List.length_take, List.length_take, List.length_drop] at this
    rw [show nm + nl = min nl rest.length + min nm (rest.length - nl) by omega]
    exact this

theorem readHeaderWs_second (s s1 : Src) (b0 b1 extra : Nat)
    (h1 : s.readFull 2 = (.ok [b0, b1], s1)) (he : hdrExtra (hdrFirst b0 b1) = .ok extra) :
    (extra ≤ s1.bytes.length →
      ∃ s2, readHeaderWs s = (hdrFinish (hdrFirst b0 b1) (s1.bytes.take extra), s2)
        ∧ s2.bytes = s1.bytes.drop extra ∧ s2.fin = s1.fin)
    ∧ (s1.bytes.length < extra → ∃ e s2, readHeaderWs s = (.error (.io e), s2)) := by
  simp only [readHeaderWs, h1, he]
  constructor
  · intro hle
    by_cases hz : extra = 0
    · subst hz; exact ⟨s1, rfl, rfl, rfl⟩
    · obtain ⟨s2, h2, hb2, hf2⟩ := s1.readFull_ok extra hle
      exact ⟨s2, by rw [if_neg hz, h2], hb2, hf2⟩
  · intro hlt
    obtain ⟨e, s2, h2, _⟩ := s1.readFull_err extra hlt
    exact ⟨e, s2, by rw [if_neg (by omega), h2]⟩

end Ws
