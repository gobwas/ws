/-
  Base: bytes, hex, transport (Src) model and the chunk-independence lemma for io.ReadFull.
  Core Lean only (this file is imported by the compiled driver).
-/
namespace Ws

/-- Under `simp`, a chain of checks, each answering with its own error, passes iff none of them fires. -/
theorem ite_some_eq_none {α : Type} {c : Prop} [Decidable c] {e : α} {x : Option α} :
    (if c then some e else x) = none ↔ ¬ c ∧ x = none := by
  split <;> simp [*]

/-- A byte is a natural number; every generator and every decoder keeps it `< 256`.
    Theorems that need the bound carry it as an explicit hypothesis (`Bytes.WF`). -/
abbrev Bytes := List Nat

def Bytes.WF (p : Bytes) : Prop := ∀ b ∈ p, b < 256

instance (p : Bytes) : Decidable (Bytes.WF p) := by unfold Bytes.WF; infer_instance

theorem Bytes.WF.nil : Bytes.WF [] := fun _ h => nomatch h

theorem Bytes.wf_cons {b : Nat} {p : Bytes} : Bytes.WF (b :: p) ↔ b < 256 ∧ Bytes.WF p :=
  List.forall_mem_cons

theorem Bytes.wf_append {a b : Bytes} : Bytes.WF (a ++ b) ↔ Bytes.WF a ∧ Bytes.WF b :=
  List.forall_mem_append

theorem Bytes.WF.take {p : Bytes} (h : Bytes.WF p) (k : Nat) : Bytes.WF (p.take k) :=
  fun x hx => h x (List.mem_of_mem_take hx)

theorem Bytes.WF.drop {p : Bytes} (h : Bytes.WF p) (k : Nat) : Bytes.WF (p.drop k) :=
  fun x hx => h x (List.mem_of_mem_drop hx)

def hexChar (n : Nat) : Char :=
  if n < 10 then Char.ofNat (48 + n) else Char.ofNat (87 + n)

def Bytes.toHex (p : Bytes) : String :=
  if p.isEmpty then "-" else
  String.mk (p.foldr (fun b acc => hexChar (b / 16 % 16) :: hexChar (b % 16) :: acc) [])

def hexVal (c : Char) : Option Nat :=
  if '0' ≤ c ∧ c ≤ '9' then some (c.toNat - 48)
  else if 'a' ≤ c ∧ c ≤ 'f' then some (c.toNat - 87)
  else if 'A' ≤ c ∧ c ≤ 'F' then some (c.toNat - 55)
  else none

def hexDecodeAux : List Char → Option Bytes
  | [] => some []
  | [_] => none
  | a :: b :: rest => do
      let x ← hexVal a
      let y ← hexVal b
      let r ← hexDecodeAux rest
      pure ((x * 16 + y) :: r)

def Bytes.ofHex? (s : String) : Option Bytes :=
  if s == "-" then some [] else hexDecodeAux s.toList

/-- How a transport ends once its bytes are exhausted. -/
inductive Fin where
  | eof   -- clean end of stream (io.EOF)
  | fail  -- any other transport error
  deriving DecidableEq, Repr, Inhabited

/-- Error classes of io.ReadFull. -/
inductive RdErr where
  | eof | ueof | fail
  deriving DecidableEq, Repr, Inhabited

/-- A transport: the chunks successive `Read` calls will return (a `Read(p)` returns at most
    `len p` bytes of the first chunk — arbitrary short reads), then `fin` forever. -/
structure Src where
  chunks : List Bytes
  fin : Fin
  /-- io.Reader allows the last data to arrive together with the error (`n > 0, io.EOF`). -/
  dataWithFin : Bool := false
  deriving DecidableEq, Repr, Inhabited

def Src.bytes (s : Src) : Bytes := s.chunks.flatten

/-- One `Read(p)` with `len p = k`. An empty chunk models `0, nil`. -/
def Src.read (s : Src) (k : Nat) : Bytes × Option Fin × Src :=
  match s.chunks with
  | [] => ([], some s.fin, s)
  | c :: cs =>
    if c.length ≤ k then
      (c, if cs.isEmpty && s.dataWithFin then some s.fin else none, { s with chunks := cs })
    else (c.take k, none, { s with chunks := c.drop k :: cs })

/-- Go's io.ReadFull loop over the chunk list: bytes obtained and chunks left. -/
def readFullAux : List Bytes → Nat → Bytes × List Bytes
  | cs, 0 => ([], cs)
  | [], _ + 1 => ([], [])
  | c :: cs, n + 1 =>
    if c.length ≤ n + 1 then
      let r := readFullAux cs (n + 1 - c.length)
      (c ++ r.1, r.2)
    else (c.take (n + 1), c.drop (n + 1) :: cs)

def Src.readFull (s : Src) (n : Nat) : Except RdErr Bytes × Src :=
  let r := readFullAux s.chunks n
  if r.1.length = n then (.ok r.1, { s with chunks := r.2 })
  else
    (.error (match s.fin with
             | .eof => if r.1.isEmpty then .eof else .ueof
             | .fail => .fail), { s with chunks := [] })

theorem Src.read_conserve (s : Src) (k : Nat) : s.bytes = (s.read k).1 ++ (s.read k).2.2.bytes := by
  unfold Src.read Src.bytes
  cases h : s.chunks with
  | nil => simp [h]
  | cons c cs =>
    simp only
    split
    · simp
    · simp [List.take_append_drop, ← List.append_assoc]

theorem readFullAux_fst (cs : List Bytes) (n : Nat) :
    (readFullAux cs n).1 = cs.flatten.take n := by
  induction cs generalizing n with
  | nil => cases n <;> simp [readFullAux]
  | cons c cs ih =>
    cases n with
    | zero => simp [readFullAux]
    | succ n =>
      simp only [readFullAux]
      split
      · rename_i h
        simp only [ih, List.flatten_cons]
        rw [List.take_append]
        rw [List.take_of_length_le h]
      · rename_i h
        simp only [List.flatten_cons]
        rw [List.take_append_of_le_length (by omega)]

theorem readFullAux_snd (cs : List Bytes) (n : Nat) :
    (readFullAux cs n).2.flatten = cs.flatten.drop n := by
  induction cs generalizing n with
  | nil => cases n <;> simp [readFullAux]
  | cons c cs ih =>
    cases n with
    | zero => simp [readFullAux]
    | succ n =>
      simp only [readFullAux]
      split
      · rename_i h
        simp only [ih, List.flatten_cons]
        rw [List.drop_append]
        rw [List.drop_of_length_le h]
        simp
      · rename_i h
        simp only [List.flatten_cons]
        rw [List.drop_append_of_le_length (by omega)]

/-- Flat description of io.ReadFull: a function of the byte string and the end kind only. -/
def readFullFlat (bs : Bytes) (fin : Fin) (n : Nat) : Except RdErr Bytes × Bytes :=
  if n ≤ bs.length then (.ok (bs.take n), bs.drop n)
  else (.error (match fin with
                | .eof => if bs.isEmpty then .eof else .ueof
                | .fail => .fail), [])

/-- io.ReadFull does not depend on the chunking. -/
theorem Src.readFull_flat (s : Src) (n : Nat) :
    (s.readFull n).1 = (readFullFlat s.bytes s.fin n).1
      ∧ (s.readFull n).2.bytes = (readFullFlat s.bytes s.fin n).2 ∧ (s.readFull n).2.fin = s.fin := by
  unfold Src.readFull readFullFlat Src.bytes
  have h1 := readFullAux_fst s.chunks n
  have h2 := readFullAux_snd s.chunks n
  simp only [h1]
  by_cases hn : n ≤ s.chunks.flatten.length
  · have h3 : (List.take n s.chunks.flatten).length = n := by rw [List.length_take]; omega
    simp only [if_pos h3, if_pos hn, h2, and_self]
  · have h3 : (List.take n s.chunks.flatten).length ≠ n := by rw [List.length_take]; omega
    have h4 : List.take n s.chunks.flatten = s.chunks.flatten :=
      List.take_of_length_le (by omega)
    rw [h4] at h3
    simp only [h4, if_neg h3, if_neg hn, List.flatten_nil, and_self]

theorem Src.readFull_ok (s : Src) (n : Nat) (h : n ≤ s.bytes.length) :
    ∃ s', s.readFull n = (.ok (s.bytes.take n), s') ∧ s'.bytes = s.bytes.drop n ∧ s'.fin = s.fin := by
  have := s.readFull_flat n
  simp only [readFullFlat, if_pos h] at this
  exact ⟨(s.readFull n).2, Prod.ext this.1 rfl, this.2.1, this.2.2⟩

theorem Src.readFull_err (s : Src) (n : Nat) (h : s.bytes.length < n) :
    ∃ e s', s.readFull n = (.error e, s') ∧ s'.bytes = [] ∧ s'.fin = s.fin
      ∧ (e = .eof ↔ (s.bytes = [] ∧ s.fin = .eof)) ∧ (e = .fail ↔ s.fin = .fail) := by
  have := s.readFull_flat n
  simp only [readFullFlat, if_neg (Nat.not_le.mpr h)] at this
  refine ⟨_, (s.readFull n).2, Prod.ext this.1 rfl, this.2.1, this.2.2, ?_, ?_⟩
  · cases s.fin <;> cases hb : s.bytes <;> simp
  · cases s.fin <;> cases hb : s.bytes <;> simp

theorem Src.readFull_ok_len {s s' : Src} {n : Nat} {p : Bytes} (h : s.readFull n = (.ok p, s')) :
    p.length = n := by
  unfold Src.readFull at h
  by_cases hl : (readFullAux s.chunks n).1.length = n
  · rw [if_pos hl] at h; cases h; exact hl
  · rw [if_neg hl] at h; cases h

theorem readFullAux_len (cs : List Bytes) (n : Nat) : (readFullAux cs n).2.length ≤ cs.length := by
  induction cs generalizing n with
  | nil => cases n <;> simp [readFullAux]
  | cons c cs ih =>
    cases n with
    | zero => simp [readFullAux]
    | succ n =>
      simp only [readFullAux]
      split
      · have := ih (n + 1 - c.length); simp only [List.length_cons]; omega
      · simp

theorem Src.readFull_src (s : Src) (n : Nat) :
    (s.readFull n).2.chunks.length ≤ s.chunks.length ∧ (s.readFull n).2.dataWithFin = s.dataWithFin
    ∧ (s.readFull n).2.fin = s.fin := by
  unfold Src.readFull
  simp only
  split
  · exact ⟨readFullAux_len _ _, rfl, rfl⟩
  · simp

/-- A transport that never returns (0, nil). -/
def Src.NoEmpty (s : Src) : Prop := ∀ c ∈ s.chunks, c ≠ []

theorem Src.read_err {s : Src} {k : Nat} {f : Fin} (h : (s.read k).2.1 = some f) :
    (s.read k).2.2.chunks = [] ∧ f = s.fin := by
  revert h
  -- no chunk left; a chunk that fits; a chunk cut at `k`
  fun_cases Src.read s k
  case case1 hc => exact fun h => ⟨hc, (Option.some.inj h).symm⟩
  case case2 =>
    intro h
    split at h
    · next hl => exact ⟨List.isEmpty_iff.mp (Bool.and_eq_true_iff.mp hl).1, (Option.some.inj h).symm⟩
    · cases h
  case case3 => nofun

theorem take_drop_len {α} (x : List α) (k : Nat) : x.take k ++ x.drop (x.take k).length = x := by
  by_cases h : k ≤ x.length
  · rw [List.length_take, Nat.min_eq_left h]; exact List.take_append_drop _ _
  · rw [List.take_of_length_le (by omega), List.drop_of_length_le (Nat.le_refl _)]; simp

end Ws
