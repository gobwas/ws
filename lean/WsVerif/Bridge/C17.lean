/-
  Bridge C17: where the source converts between owned and viewed memory, where it takes and
  returns pooled buffers and where it uses the unsafe casts.
-/
import WsVerif.Props.C17
import WsVerif.Bridge.Lits
namespace Ws.Bridge.C17
open Ws.C17

/-- No result of the selection paths, the close handler, the copying mask helpers or the message
    reader is built from a viewing conversion (ParseCloseFrameDataUnsafe is the documented
    exception: it is the caller's choice and no library path uses it). -/
theorem no_view_in_results :
    ((Gen.facts_ws_own ++ Gen.facts_wsutil_own).filter (fun s => isResultSite s && !s.startsWith "ParseCloseFrameDataUnsafe")).all
      (fun s => !usesView s) = true := by
  simp only [Lits.ws_own.eq, Lits.wsutil_own.eq, Lits.ofList_simps, isResultSite, usesView, mentions]
  repeat rw [String.toList_ofList]
  decide +kernel

/-- What the extractor records for the ws package's selection, negotiation, masking and
    close-payload functions: returns, owning and viewing conversions, allocations, copies and
    in-place operations. -/
theorem ws_own :
    Gen.facts_ws_own =
      ["matchSelectedExtensions: return received, nil",
       "matchSelectedExtensions: assign want.Parameters = option.Parameters.Copy(make([]byte, option.Parameters.Size()))",
       "matchSelectedExtensions: own option.Parameters.Copy(make([]byte, option.Parameters.Size()))",
       "matchSelectedExtensions: alloc make([]byte, option.Parameters.Size())",
       "matchSelectedExtensions: return true",
       "matchSelectedExtensions: return false",
       "matchSelectedExtensions: return httphead.ControlBreak",
       "matchSelectedExtensions: return httphead.ControlContinue",
       "matchSelectedExtensions: return received, err",
       "matchSelectedExtensions: return received, ErrHandshakeBadExtensions",
       "matchSelectedExtensions: return received, err",
       "MaskFrame: return MaskFrameWith(f, NewMask())",
       "MaskFrameWith: alloc make([]byte, len(f.Payload))",
       "MaskFrameWith: copy copy(p, f.Payload)",
       "MaskFrameWith: assign f.Payload = p",
       "MaskFrameWith: return MaskFrameInPlaceWith(f, mask)",
       "MaskFrameWith: inplace MaskFrameInPlaceWith(f, mask)",
       "MaskFrameInPlace: return MaskFrameInPlaceWith(f, NewMask())",
       "MaskFrameInPlace: inplace MaskFrameInPlaceWith(f, NewMask())",
       "UnmaskFrame: alloc make([]byte, len(f.Payload))",
       "UnmaskFrame: copy copy(p, f.Payload)",
       "UnmaskFrame: assign f.Payload = p",
       "UnmaskFrame: return UnmaskFrameInPlace(f)",
       "UnmaskFrame: inplace UnmaskFrameInPlace(f)",
       "UnmaskFrameInPlace: inplace Cipher(f.Payload, f.Header.Mask, 0)",
       "UnmaskFrameInPlace: return f",
       "MaskFrameInPlaceWith: inplace Cipher(f.Payload, m, 0)",
       "MaskFrameInPlaceWith: return f",
       "httpGetHeader: return \"\"",
       "httpGetHeader: return \"\"",
       "httpGetHeader: return v[0]",
       "strSelectProtocol: view strToBytes(h)",
       "strSelectProtocol: view btsToString(v)",
       "strSelectProtocol: assign ret = string(v)",
       "strSelectProtocol: own string(v)",
       "strSelectProtocol: return false",
       "strSelectProtocol: return true",
       "strSelectProtocol: return ret, ok",
       "btsSelectProtocol: assign selected = v",
       "btsSelectProtocol: return false",
       "btsSelectProtocol: return true",
       "btsSelectProtocol: return string(selected), true",
       "btsSelectProtocol: own string(selected)",
       "btsSelectProtocol: return ret, ok",
       "btsSelectExtensions: own Flags: httphead.SelectCopy",
       "btsSelectExtensions: return s.Select(h, selected)",
       "negotiateMaybe: return dest, nil",
       "negotiateMaybe: return nil, err",
       "negotiateMaybe: return dest, nil",
       "negotiateExtensions: return httphead.ControlBreak",
       "negotiateExtensions: return httphead.ControlContinue",
       "negotiateExtensions: return nil, ErrMalformedRequest",
       "negotiateExtensions: return negotiateMaybe(current, dest, f)",
       "ParseCloseFrameData: return code, reason",
       "ParseCloseFrameData: own string(payload[2:])",
       "ParseCloseFrameData: return code, reason",
       "ParseCloseFrameDataUnsafe: return code, reason",
       "ParseCloseFrameDataUnsafe: view btsToString(payload[2:])",
       "ParseCloseFrameDataUnsafe: return code, reason",
       "HTTPUpgrader_Upgrade: return conn, rw, hs, err",
       "HTTPUpgrader_Upgrade: view strToBytes(h)",
       "HTTPUpgrader_Upgrade: view strToBytes(xs[i])",
       "HTTPUpgrader_Upgrade: view strToBytes(nonce)",
       "HTTPUpgrader_Upgrade: return conn, rw, hs, err"] := rfl

/-- The same sites in wsutil's close handler, message reader, writer and cipher writer: every client-side
    write masks a pooled copy (copy(payload, p) before MaskFrameInPlace, frame.Payload = payload). -/
theorem wsutil_own :
    Gen.facts_wsutil_own =
      ["CipherWriter_Write: pool pbytes.GetLen(len(p))",
       "CipherWriter_Write: pool pbytes.Put(cp)",
       "CipherWriter_Write: copy copy(cp, p)",
       "CipherWriter_Write: inplace ws.Cipher(cp, c.mask, c.pos)",
       "CipherWriter_Write: return n, err",
       "ControlHandler_HandleClose: return err",
       "ControlHandler_HandleClose: return ClosedError{ Code: ws.StatusNoStatusRcvd, }",
       "ControlHandler_HandleClose: pool pbytes.GetLen(int(h.Length) + ws.HeaderSize(ws.Header{ Length: h.Length, Masked: c.State.ClientSide(), }))",
       "ControlHandler_HandleClose: pool pbytes.Put(p)",
       "ControlHandler_HandleClose: return err",
       "ControlHandler_HandleClose: own ws.ParseCloseFrameData(subp)",
       "ControlHandler_HandleClose: return err",
       "ControlHandler_HandleClose: return err",
       "ControlHandler_HandleClose: return err",
       "ControlHandler_HandleClose: return ClosedError{ Code: code, Reason: reason, }",
       "ReadMessage: return err",
       "ReadMessage: return nil",
       "ReadMessage: return m, err",
       "ReadMessage: alloc make([]byte, h.Length)",
       "ReadMessage: return m, err",
       "ReadMessage: return append(m, Message{h.OpCode, p}), nil",
       "Writer_Write: copy copy(w.buf[w.n:], p)",
       "Writer_Write: return n, w.err",
       "Writer_Write: copy copy(w.buf[w.n:], p)",
       "Writer_Write: return n, w.err",
       "Writer_WriteThrough: return 0, w.err",
       "Writer_WriteThrough: return 0, ErrNotEmpty",
       "Writer_WriteThrough: return 0, err",
       "Writer_WriteThrough: pool pbytes.GetLen(len(p))",
       "Writer_WriteThrough: pool pbytes.Put(payload)",
       "Writer_WriteThrough: copy copy(payload, p)",
       "Writer_WriteThrough: assign frame.Payload = payload",
       "Writer_WriteThrough: inplace ws.MaskFrameInPlace(frame)",
       "Writer_WriteThrough: assign frame.Payload = p",
       "Writer_WriteThrough: return n, w.err",
       "writeFrame: pool pbytes.GetLen(len(p))",
       "writeFrame: pool pbytes.Put(payload)",
       "writeFrame: copy copy(payload, p)",
       "writeFrame: inplace ws.MaskFrameInPlace(frame)",
       "writeFrame: return ws.WriteFrame(w, frame)"] := rfl

/-- Every use of the unsafe casts in the ws package. -/
theorem ws_unsafe_sites :
    Gen.facts_ws_unsafe =
      ["Dialer_Upgrade: btsToString(k)",
       "HTTPUpgrader_Upgrade: strToBytes(h)",
       "HTTPUpgrader_Upgrade: strToBytes(nonce)",
       "HTTPUpgrader_Upgrade: strToBytes(xs[i])",
       "ParseCloseFrameDataUnsafe: btsToString(payload[2:])",
       "Upgrader_Upgrade: btsToString(k)",
       "Upgrader_Upgrade: btsToString(req.method)",
       "httpWriteUpgradeRequest: btsToString(nonce)",
       "strHasToken: strToBytes(header)",
       "strHasToken: strToBytes(token)",
       "strSelectProtocol: btsToString(v)",
       "strSelectProtocol: strToBytes(h)",
       "writeAccept: btsToString(accept)"] := rfl

theorem wsutil_unsafe_sites : Gen.facts_wsutil_unsafe = [] := rfl

/-- Every pool acquisition and release (deferred releases after the last use). -/
theorem ws_pool_sites :
    Gen.facts_ws_pool =
      ["Dialer_Upgrade: defer pbufio.PutReader(br)",
       "Dialer_Upgrade: defer pbufio.PutWriter(bw)",
       "Dialer_Upgrade: pbufio.GetReader(conn, nonZero(d.ReadBufferSize, DefaultClientReadBufferSize), )",
       "Dialer_Upgrade: pbufio.GetWriter(conn, nonZero(d.WriteBufferSize, DefaultClientWriteBufferSize), )",
       "Dialer_Upgrade: pbufio.PutReader(br)",
       "Dialer_Upgrade: pbufio.PutWriter(bw)",
       "PutReader: pbufio.PutReader(br)",
       "Upgrader_Upgrade: defer pbufio.PutReader(br)",
       "Upgrader_Upgrade: defer pbufio.PutWriter(bw)",
       "Upgrader_Upgrade: pbufio.GetReader(conn, nonZero(u.ReadBufferSize, DefaultServerReadBufferSize), )",
       "Upgrader_Upgrade: pbufio.GetWriter(conn, nonZero(u.WriteBufferSize, DefaultServerWriteBufferSize), )",
       "Upgrader_Upgrade: pbufio.PutReader(br)",
       "Upgrader_Upgrade: pbufio.PutWriter(bw)"] := rfl

theorem wsutil_pool_sites :
    Gen.facts_wsutil_pool =
      ["CipherWriter_Write: defer pbytes.Put(cp)",
       "CipherWriter_Write: pbytes.GetLen(len(p))",
       "CipherWriter_Write: pbytes.Put(cp)",
       "ControlHandler_HandleClose: defer pbytes.Put(p)",
       "ControlHandler_HandleClose: pbytes.GetLen(int(h.Length) + ws.HeaderSize(ws.Header{ Length: h.Length, Masked: c.State.ClientSide(), }))",
       "ControlHandler_HandleClose: pbytes.Put(p)",
       "ControlHandler_HandlePing: defer pbytes.Put(p)",
       "ControlHandler_HandlePing: pbytes.GetLen(int(h.Length) + ws.HeaderSize(ws.Header{ Length: h.Length, Masked: c.State.ClientSide(), }))",
       "ControlHandler_HandlePing: pbytes.Put(p)",
       "ControlHandler_HandlePong: defer pbytes.Put(buf)",
       "ControlHandler_HandlePong: pbytes.GetLen(int(h.Length))",
       "ControlHandler_HandlePong: pbytes.Put(buf)",
       "GetWriter: writers.Get(n)",
       "PutWriter: writers.Put(w, w.Size())",
       "Writer_WriteThrough: defer pbytes.Put(payload)",
       "Writer_WriteThrough: pbytes.GetLen(len(p))",
       "Writer_WriteThrough: pbytes.Put(payload)",
       "writeFrame: defer pbytes.Put(payload)",
       "writeFrame: pbytes.GetLen(len(p))",
       "writeFrame: pbytes.Put(payload)"] := rfl

end Ws.Bridge.C17
