/-
  Bridge C11: readLine and the debugging wrappers as the source has them; the handshake buffers
  come from the pool with the configured sizes.
-/
import WsVerif.Gen.Consts
import WsVerif.Bridge.Lits
namespace Ws.Bridge.C11

/-- Reassemble across ErrBufferFull, strip LF / CRLF. -/
theorem readLine_conds :
    Gen.facts_ws_conds.filter (·.startsWith "readLine:") =
      ["readLine: err == bufio.ErrBufferFull",
       "readLine: line == nil",
       "readLine: err != nil",
       "readLine: n > 1 && line[n-2] == '\\r'"] :=
  Lits.ws_conds.filter_startsWith (by repeat constructor) (by decide +kernel)

theorem debugDialer_conds :
    Gen.facts_wsutil_conds.filter (·.startsWith "DebugDialer_Dial:") =
      ["DebugDialer_Dial: userWrap != nil",
       "DebugDialer_Dial: d.OnResponse != nil",
       "DebugDialer_Dial: d.OnRequest != nil",
       "DebugDialer_Dial: onRequest != nil",
       "DebugDialer_Dial: onResponse != nil",
       "DebugDialer_Dial: n > len(p)",
       "DebugDialer_Dial: br != nil",
       "DebugDialer_Dial: len(p) > h"] :=
  Lits.wsutil_conds.filter_startsWith (by repeat constructor) (by decide +kernel)

theorem headEndIndex_conds :
    Gen.facts_wsutil_conds.filter (·.startsWith "headEndIndex:") =
      ["headEndIndex: j == -1",
       "headEndIndex: i < len(p) && p[i] == '\\n'",
       "headEndIndex: i+1 < len(p) && p[i] == '\\r' && p[i+1] == '\\n'"] :=
  Lits.wsutil_conds.filter_startsWith (by repeat constructor) (by decide +kernel)

theorem prefetch_conds :
    Gen.facts_wsutil_conds.filter (·.startsWith "prefetchResponseReader_Read:") =
      ["prefetchResponseReader_Read: r.reader == nil",
       "prefetchResponseReader_Read: err == nil"] :=
  Lits.wsutil_conds.filter_startsWith (by repeat constructor) (by decide +kernel)

theorem debugUpgrader_conds :
    Gen.facts_wsutil_conds.filter (·.startsWith "DebugUpgrader_Upgrade:") =
      ["DebugUpgrader_Upgrade: onRequest != nil",
       "DebugUpgrader_Upgrade: err == nil",
       "DebugUpgrader_Upgrade: onResponse != nil"] :=
  Lits.wsutil_conds.filter_startsWith (by repeat constructor) (by decide +kernel)

/-- Handshake I/O buffers: taken from the pool with the configured size and returned. These are the
    lines of `Bridge.C17.ws_pool_sites` for the two Upgrade methods. -/
theorem handshake_pool :
    Gen.facts_ws_pool.filter (fun s => s.startsWith "Upgrader_Upgrade:" || s.startsWith "Dialer_Upgrade:") =
      ["Dialer_Upgrade: defer pbufio.PutReader(br)",
       "Dialer_Upgrade: defer pbufio.PutWriter(bw)",
       "Dialer_Upgrade: pbufio.GetReader(conn, nonZero(d.ReadBufferSize, DefaultClientReadBufferSize), )",
       "Dialer_Upgrade: pbufio.GetWriter(conn, nonZero(d.WriteBufferSize, DefaultClientWriteBufferSize), )",
       "Dialer_Upgrade: pbufio.PutReader(br)",
       "Dialer_Upgrade: pbufio.PutWriter(bw)",
       "Upgrader_Upgrade: defer pbufio.PutReader(br)",
       "Upgrader_Upgrade: defer pbufio.PutWriter(bw)",
       "Upgrader_Upgrade: pbufio.GetReader(conn, nonZero(u.ReadBufferSize, DefaultServerReadBufferSize), )",
       "Upgrader_Upgrade: pbufio.GetWriter(conn, nonZero(u.WriteBufferSize, DefaultServerWriteBufferSize), )",
       "Upgrader_Upgrade: pbufio.PutReader(br)",
       "Upgrader_Upgrade: pbufio.PutWriter(bw)"] :=
  Lits.ws_pool.filter_eq (by repeat constructor) (h := by decide +kernel)

theorem buffer_defaults : Gen.ws_DefaultServerReadBufferSize = 4096 ∧ Gen.ws_DefaultClientReadBufferSize = 4096 := by decide

end Ws.Bridge.C11
