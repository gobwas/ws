/-
  Bridge C03: the translations of check.go / frame.go regenerated from /repo's source agree with
  the model the C03 theorems are about. Re-checked on every run.
-/
import WsVerif.Gen.Funcs
import WsVerif.Model.Check
import WsVerif.Bridge.C01
namespace Ws.Bridge.C03
open Ws Ws.Bridge.C01

theorem consts_ok :
    Gen.ws_OpContinuation = opContinuation ∧ Gen.ws_OpText = opText ∧ Gen.ws_OpBinary = opBinary
      ∧ Gen.ws_OpClose = opClose ∧ Gen.ws_OpPing = opPing ∧ Gen.ws_OpPong = opPong
      ∧ Gen.ws_StateServerSide = stServer ∧ Gen.ws_StateClientSide = stClient
      ∧ Gen.ws_StateExtended = stExtended ∧ Gen.ws_StateFragmented = stFragmented
      ∧ Gen.ws_MaxControlFramePayloadSize = maxControlFramePayloadSize
      ∧ Gen.ws_StatusProtocolError = 1002 ∧ Gen.ws_StatusInvalidFramePayloadData = 1007
      ∧ Gen.ws_StatusNoStatusRcvd = 1005 := by decide

theorem isControl_bridge (c : Nat) : Gen.ws_OpCode_IsControl c = opIsControl c := rfl
theorem isData_bridge (c : Nat) : Gen.ws_OpCode_IsData c = opIsData c := rfl
theorem isReserved_bridge (c : Nat) : Gen.ws_OpCode_IsReserved c = opIsReserved c := rfl

theorem state_bridge (s v : Nat) :
    Gen.ws_State_Is s v = stIs s v ∧ Gen.ws_State_Set s v = stSet s v ∧ Gen.ws_State_Clear s v = stClear s v
      ∧ Gen.ws_State_ServerSide s = stIs s stServer ∧ Gen.ws_State_ClientSide s = stIs s stClient
      ∧ Gen.ws_State_Extended s = stIs s stExtended ∧ Gen.ws_State_Fragmented s = stIs s stFragmented :=
  ⟨rfl, rfl, rfl, rfl, rfl, rfl, rfl⟩

/-- The translated ws.CheckHeader is the model's cascade, error for error. -/
theorem checkHeader_bridge (h : Ws.Header) (s : Nat) :
    Gen.ws_CheckHeader (toGen h) s = (checkHeader h s).map ProtoErr.goName := by
  have hgt : decide ((h.len : Int) > 125) = decide (h.len > 125) := decide_eq_decide.mpr (by omega)
  obtain ⟨-, -, -, hserver, hclient, hextended, hfragmented⟩ := state_bridge s 0
  unfold Gen.ws_CheckHeader checkHeader toGen
  simp only [isReserved_bridge, isControl_bridge, hserver, hclient, hextended, hfragmented, hgt, apply_ite (Option.map ProtoErr.goName), Option.map_some, Option.map_none, ProtoErr.goName]
  -- check.go tests IsControl once and nests the two control-frame rules under it, the model repeats
  -- the test in both rules; apart from that the two cascades are the same text
  cases opIsControl h.op <;> rfl

theorem ite_bool (b : Bool) : (if b = true then true else false) = b := by cases b <;> rfl

theorem status_bridge (c : Nat) :
    Gen.ws_StatusCode_IsNotUsed c = codeIsNotUsed c ∧ Gen.ws_StatusCode_IsProtocolSpec c = codeIsProtocolSpec c
      ∧ Gen.ws_StatusCode_IsApplicationSpec c = codeIsApplicationSpec c
      ∧ Gen.ws_StatusCode_IsPrivateSpec c = codeIsPrivateSpec c
      ∧ Gen.ws_StatusCode_IsProtocolReserved c = codeIsProtocolReserved c
      ∧ Gen.ws_StatusCode_IsProtocolDefined c = codeIsProtocolDefined c :=
  ⟨rfl, rfl, rfl, rfl, ite_bool _, ite_bool _⟩

/-- The translated ws.CheckCloseFrameData is the model's, for whatever utf8.ValidString answers. -/
theorem checkClose_bridge (c : Nat) (reason : Bytes) :
    Gen.ws_CheckCloseFrameData c reason
      = (checkCloseWith (Gen.Ext.utf8_ValidString reason) c).map ProtoErr.goName := by
  obtain ⟨b1, b2, _, _, b5, b6⟩ := status_bridge c
  unfold Gen.ws_CheckCloseFrameData checkCloseWith
  simp only [b1, b2, b5, b6, apply_ite (Option.map ProtoErr.goName), Option.map_some, Option.map_none,
    ProtoErr.goName]
  rfl

/-- frame.go:Rsv / RsvBits: bit 4 = RSV1, 2 = RSV2, 1 = RSV3. -/
theorem rsv_bridge :
    ([true, false].all fun a => [true, false].all fun b => [true, false].all fun c =>
      Gen.ws_Rsv a b c == (if a then 4 else 0) + (if b then 2 else 0) + (if c then 1 else 0)) = true
    ∧ ((List.range 8).all fun r => Gen.ws_RsvBits r == (r / 4 % 2 == 1, r / 2 % 2 == 1, r % 2 == 1)) = true := by
  decide

end Ws.Bridge.C03
