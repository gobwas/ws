/-
  Bridge C09/C10: the handshake models use the header names, error values, status texts and
  decision conditions that the source has (regenerated Gen/Strings, Gen/Consts, Gen/Facts).
-/
import WsVerif.Props.C09
import WsVerif.Gen.Consts
import WsVerif.Gen.Strings
import WsVerif.Bridge.Lits
namespace Ws.Bridge.C09
open Ws

theorem header_names :
    C09.kHost = strBytes Gen.ws_str_headerHostCanonical ∧ C09.kUpgrade = strBytes Gen.ws_str_headerUpgradeCanonical
    ∧ C09.kConnection = strBytes Gen.ws_str_headerConnectionCanonical
    ∧ C09.kVersion = strBytes Gen.ws_str_headerSecVersionCanonical ∧ C09.kKey = strBytes Gen.ws_str_headerSecKeyCanonical
    ∧ C09.kProtocol = strBytes Gen.ws_str_headerSecProtocolCanonical
    ∧ C09.kExtensions = strBytes Gen.ws_str_headerSecExtensionsCanonical :=
  ⟨rfl, rfl, rfl, rfl, rfl, rfl, rfl⟩

theorem seen_bits :
    seenHost = Gen.ws_Upgrader_Upgrade__headerSeenHost ∧ seenUpgrade = Gen.ws_Upgrader_Upgrade__headerSeenUpgrade
    ∧ seenConnection = Gen.ws_Upgrader_Upgrade__headerSeenConnection
    ∧ seenSecVersion = Gen.ws_Upgrader_Upgrade__headerSeenSecVersion
    ∧ seenSecKey = Gen.ws_Upgrader_Upgrade__headerSeenSecKey ∧ seenAll = Gen.ws_Upgrader_Upgrade__headerSeenAll
    ∧ Gen.ws_nonceSize = 24 ∧ Gen.ws_acceptSize = 28 := by decide

def ofGen (name : String) (t : Nat × String × String) : HsErr := ⟨name, t.1, strBytes t.2.1, strBytes t.2.2⟩

theorem ofGen_plain (name : String) (c : Nat) (r : String) : ⟨name, c, strBytes r, []⟩ = ofGen name (c, r, "") :=
  congrArg (HsErr.mk name c (strBytes r)) (by decide +kernel : [] = strBytes "")

/-- The built-in handshake errors of the model are the values server.go declares. -/
theorem builtin_errors :
    errBadProtocol = ofGen "ErrHandshakeBadProtocol" Gen.ws_rej_ErrHandshakeBadProtocol
    ∧ errBadMethod = ofGen "ErrHandshakeBadMethod" Gen.ws_rej_ErrHandshakeBadMethod
    ∧ errBadHost = ofGen "ErrHandshakeBadHost" Gen.ws_rej_ErrHandshakeBadHost
    ∧ errBadUpgrade = ofGen "ErrHandshakeBadUpgrade" Gen.ws_rej_ErrHandshakeBadUpgrade
    ∧ errBadConnection = ofGen "ErrHandshakeBadConnection" Gen.ws_rej_ErrHandshakeBadConnection
    ∧ errBadSecAccept = ofGen "ErrHandshakeBadSecAccept" Gen.ws_rej_ErrHandshakeBadSecAccept
    ∧ errBadSecKey = ofGen "ErrHandshakeBadSecKey" Gen.ws_rej_ErrHandshakeBadSecKey
    ∧ errBadSecVersion = ofGen "ErrHandshakeBadSecVersion" Gen.ws_rej_ErrHandshakeBadSecVersion
    ∧ errUpgradeRequired = ofGen "ErrHandshakeUpgradeRequired" Gen.ws_rej_ErrHandshakeUpgradeRequired
    ∧ errMalformedRequest = ofGen "ErrMalformedRequest" Gen.ws_rej_ErrMalformedRequest :=
  ⟨ofGen_plain .., ofGen_plain .., ofGen_plain .., ofGen_plain .., ofGen_plain .., ofGen_plain .., ofGen_plain ..,
   ofGen_plain .., rfl, ofGen_plain ..⟩

/-- The fixed part of the 101 response and the GUID are the source's constants. -/
theorem response_consts :
    strBytes Gen.ws_str_textHeadUpgrade = strBytes "HTTP/1.1 101 Switching Protocols\r\nUpgrade: websocket\r\nConnection: Upgrade\r\n"
    ∧ Spec.wsGUID = strBytes Gen.ws_str_magic ∧ strBytes Gen.ws_str_headerSecAccept = strBytes "Sec-WebSocket-Accept"
    ∧ strBytes Gen.ws_str_headerSecProtocol = strBytes "Sec-WebSocket-Protocol"
    ∧ strBytes Gen.ws_str_headerSecExtensions = strBytes "Sec-WebSocket-Extensions"
    ∧ strBytes Gen.ws_str_crlf = crlf :=
  ⟨rfl, rfl, rfl, rfl, rfl, by decide +kernel⟩

/-- The decision structure of Upgrader.Upgrade the model mirrors (upRequestLine, upHeader, upFinish). -/
theorem upgrader_conds :
    Gen.facts_ws_conds.filter (·.startsWith "Upgrader_Upgrade:") =
      ["Upgrader_Upgrade: err != nil",
       "Upgrader_Upgrade: err != nil",
       "Upgrader_Upgrade: case req.major != 1 || req.minor < 1",
       "Upgrader_Upgrade: case btsToString(req.method) != http.MethodGet",
       "Upgrader_Upgrade: onRequest != nil",
       "Upgrader_Upgrade: e != nil",
       "Upgrader_Upgrade: len(line) == 0",
       "Upgrader_Upgrade: !ok",
       "Upgrader_Upgrade: case headerHostCanonical",
       "Upgrader_Upgrade: onHost != nil",
       "Upgrader_Upgrade: case headerUpgradeCanonical",
       "Upgrader_Upgrade: !bytes.Equal(v, specHeaderValueUpgrade) && !bytes.EqualFold(v, specHeaderValueUpgrade)",
       "Upgrader_Upgrade: case headerConnectionCanonical",
       "Upgrader_Upgrade: !bytes.Equal(v, specHeaderValueConnection) && !btsHasToken(v, specHeaderValueConnectionLower)",
       "Upgrader_Upgrade: case headerSecVersionCanonical",
       "Upgrader_Upgrade: !bytes.Equal(v, specHeaderValueSecVersion)",
       "Upgrader_Upgrade: case headerSecKeyCanonical",
       "Upgrader_Upgrade: len(v) != nonceSize",
       "Upgrader_Upgrade: case headerSecProtocolCanonical",
       "Upgrader_Upgrade: hs.Protocol == \"\" && (custom != nil || check != nil)",
       "Upgrader_Upgrade: custom != nil",
       "Upgrader_Upgrade: !ok",
       "Upgrader_Upgrade: case headerSecExtensionsCanonical",
       "Upgrader_Upgrade: err == nil && f != nil",
       "Upgrader_Upgrade: u.Negotiate == nil && (custom != nil || check != nil)",
       "Upgrader_Upgrade: custom != nil",
       "Upgrader_Upgrade: !ok",
       "Upgrader_Upgrade: onHeader != nil",
       "Upgrader_Upgrade: case err == nil && headerSeen != headerSeenAll",
       "Upgrader_Upgrade: case headerSeen&headerSeenHost == 0",
       "Upgrader_Upgrade: case headerSeen&headerSeenUpgrade == 0",
       "Upgrader_Upgrade: case headerSeen&headerSeenConnection == 0",
       "Upgrader_Upgrade: case headerSeen&headerSeenSecVersion == 0",
       "Upgrader_Upgrade: case headerSeen&headerSeenSecKey == 0",
       "Upgrader_Upgrade: case err == nil && u.OnBeforeUpgrade != nil",
       "Upgrader_Upgrade: err != nil",
       "Upgrader_Upgrade: ok",
       "Upgrader_Upgrade: code == 0"] :=
  Lits.ws_conds.filter_startsWith (by repeat constructor) (by decide +kernel)

/-- The decision structure of HTTPUpgrader.Upgrade (httpErr0, httpProto, httpExts). -/
theorem httpUpgrader_conds :
    Gen.facts_ws_conds.filter (·.startsWith "HTTPUpgrader_Upgrade:") =
      ["HTTPUpgrader_Upgrade: err != nil",
       "HTTPUpgrader_Upgrade: r.Method != http.MethodGet",
       "HTTPUpgrader_Upgrade: r.ProtoMajor != 1 || r.ProtoMinor < 1",
       "HTTPUpgrader_Upgrade: r.Host == \"\"",
       "HTTPUpgrader_Upgrade: u != \"websocket\" && !strings.EqualFold(u, \"websocket\")",
       "HTTPUpgrader_Upgrade: c != \"Upgrade\" && !strHasToken(c, \"upgrade\")",
       "HTTPUpgrader_Upgrade: len(nonce) != nonceSize",
       "HTTPUpgrader_Upgrade: v != \"13\"",
       "HTTPUpgrader_Upgrade: v != \"\"",
       "HTTPUpgrader_Upgrade: err == nil && check != nil",
       "HTTPUpgrader_Upgrade: !ok",
       "HTTPUpgrader_Upgrade: err == nil && f != nil",
       "HTTPUpgrader_Upgrade: err != nil",
       "HTTPUpgrader_Upgrade: err == nil && check != nil && u.Negotiate == nil",
       "HTTPUpgrader_Upgrade: !ok",
       "HTTPUpgrader_Upgrade: t != 0",
       "HTTPUpgrader_Upgrade: h != nil",
       "HTTPUpgrader_Upgrade: err == nil",
       "HTTPUpgrader_Upgrade: ok",
       "HTTPUpgrader_Upgrade: code == 0"] :=
  Lits.ws_conds.filter_startsWith (by repeat constructor) (by decide +kernel)

/-- Decimal digits only, overflow refused. -/
theorem asciiToInt_conds :
    Gen.facts_ws_conds.filter (·.startsWith "asciiToInt:") =
      ["asciiToInt: n < 1",
       "asciiToInt: bts[i] < '0' || bts[i] > '9'",
       "asciiToInt: ret > (maxInt-d)/10"] :=
  Lits.ws_conds.filter_startsWith (by repeat constructor) (by decide +kernel)

theorem parseVersion_conds :
    Gen.facts_ws_conds.filter (·.startsWith "httpParseVersion:") =
      ["httpParseVersion: case bytes.Equal(bts, httpVersion1_0)",
       "httpParseVersion: case bytes.Equal(bts, httpVersion1_1)",
       "httpParseVersion: case len(bts) < 8",
       "httpParseVersion: case !bytes.Equal(bts[:5], httpVersionPrefix)",
       "httpParseVersion: dot == -1",
       "httpParseVersion: err != nil",
       "httpParseVersion: err != nil"] :=
  Lits.ws_conds.filter_startsWith (by repeat constructor) (by decide +kernel)

theorem responseError_conds :
    Gen.facts_ws_conds.filter (·.startsWith "httpWriteResponseError:") =
      ["httpWriteResponseError: case http.StatusBadRequest",
       "httpWriteResponseError: case http.StatusInternalServerError",
       "httpWriteResponseError: case http.StatusUpgradeRequired",
       "httpWriteResponseError: header != nil",
       "httpWriteResponseError: case ErrHandshakeBadProtocol",
       "httpWriteResponseError: case ErrHandshakeBadMethod",
       "httpWriteResponseError: case ErrHandshakeBadHost",
       "httpWriteResponseError: case ErrHandshakeBadUpgrade",
       "httpWriteResponseError: case ErrHandshakeBadConnection",
       "httpWriteResponseError: case ErrHandshakeBadSecAccept",
       "httpWriteResponseError: case ErrHandshakeBadSecKey",
       "httpWriteResponseError: case ErrHandshakeBadSecVersion",
       "httpWriteResponseError: case ErrHandshakeUpgradeRequired",
       "httpWriteResponseError: case nil"] :=
  Lits.ws_conds.filter_startsWith (by repeat constructor) (by decide +kernel)

end Ws.Bridge.C09
