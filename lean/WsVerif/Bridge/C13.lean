/- Bridge C13: wsflate.MessageState.SetBits / UnsetBits regenerated from source agree with the
   model's extRsv / unsetBits (the writer and reader models call those). -/
import WsVerif.Gen.Funcs
import WsVerif.Props.C13
import WsVerif.Bridge.C03
namespace Ws.Bridge.C13
open Ws Ws.Bridge.C01

/-- The table of `Bridge.C03.rsv_bridge` in the mask form `unsetBits` / `setBits` are written in. -/
theorem rsv_facts : ∀ r < 8,
    Gen.ws_RsvBits r = (r &&& 4 != 0, r &&& 2 != 0, r &&& 1 != 0)
    ∧ Gen.ws_Rsv false (r &&& 2 != 0) (r &&& 1 != 0) = r &&& 3
    ∧ Gen.ws_Rsv true (r &&& 2 != 0) (r &&& 1 != 0) = (r &&& 3) ||| 4 := by decide

/-- UnsetBits: translated source = model, on every header with a 3-bit RSV field. -/
theorem unsetBits_bridge (c : Bool) (h : Ws.Header) (hr : h.rsv < 8) :
    Gen.wsflate_MessageState_UnsetBits ⟨c⟩ (toGen h)
      = (toGen (unsetBits c h).1, (unsetBits c h).2.1.map ProtoErr.goName, ⟨(unsetBits c h).2.2⟩) := by
  obtain ⟨f1, f2, _⟩ := rsv_facts _ hr
  unfold Gen.wsflate_MessageState_UnsetBits unsetBits
  simp only [toGen, f1, Ws.Bridge.C03.isData_bridge, Gen.wsflate_MessageState_SetCompressed, Ws.Bridge.C03.consts_ok.1]
  by_cases hd : (opIsData h.op && h.op != opContinuation) = true
  · simp only [hd, if_true, f2]
    rfl
  · have hd' : (opIsData h.op && h.op != opContinuation) = false := by simpa using hd
    simp only [hd', Bool.false_eq_true, if_false]
    cases h4 : (h.rsv &&& 4 != 0) <;> simp [ProtoErr.goName]

/-- SetBits in general (any incoming RSV < 8): translated source = model. -/
theorem setBits_bridge_gen (c : Bool) (h : Ws.Header) (hr : h.rsv < 8) :
    Gen.wsflate_MessageState_SetBits ⟨c⟩ (toGen h) = (toGen (setBits c h).1, (setBits c h).2.map ProtoErr.goName) := by
  obtain ⟨f1, _, f3⟩ := rsv_facts _ hr
  have e4 : ∀ r < 8, (r &&& 4 != 0) = false → (r &&& 3 ||| 4) = (r ||| 4) := by decide
  unfold Gen.wsflate_MessageState_SetBits setBits
  simp only [toGen, f1, Ws.Bridge.C03.isData_bridge, Ws.Bridge.C03.consts_ok.1, Gen.wsflate_MessageState_IsCompressed, f3]
  cases h4 : (h.rsv &&& 4 != 0)
  · simp only [Bool.false_eq_true, if_false]
    cases hd : opIsData h.op <;> cases hc : (h.op == opContinuation) <;> cases c <;>
      simp [e4 h.rsv hr h4]
  · simp [ProtoErr.goName]

/-- SetBits on the fresh header the writer builds (RSV = 0): RSV becomes the model's extRsv. -/
theorem setBits_bridge (c : Bool) (h : Ws.Header) (h0 : h.rsv = 0) :
    Gen.wsflate_MessageState_SetBits ⟨c⟩ (toGen h)
      = (toGen { h with rsv := extRsv (some c) h.op }, none) := by
  rw [setBits_bridge_gen c h (by omega), Ws.C13.setBits_fresh c h h0]
  rfl

end Ws.Bridge.C13
