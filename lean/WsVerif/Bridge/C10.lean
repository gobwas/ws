/-
  Bridge C10: the dialer model uses the constants and the decision conditions the source has.
-/
import WsVerif.Props.C10
import WsVerif.Gen.Consts
import WsVerif.Gen.Strings
import WsVerif.Bridge.Lits
namespace Ws.Bridge.C10
open Ws

theorem header_names :
    C10.kUpgrade = strBytes Gen.ws_str_headerUpgradeCanonical ∧ C10.kConnection = strBytes Gen.ws_str_headerConnectionCanonical
    ∧ C10.kAccept = strBytes Gen.ws_str_headerSecAcceptCanonical ∧ C10.kProtocol = strBytes Gen.ws_str_headerSecProtocolCanonical
    ∧ C10.kExtensions = strBytes Gen.ws_str_headerSecExtensionsCanonical :=
  ⟨rfl, rfl, rfl, rfl, rfl⟩

theorem seen_bits :
    dSeenUpgrade = Gen.ws_Dialer_Upgrade__headerSeenUpgrade ∧ dSeenConnection = Gen.ws_Dialer_Upgrade__headerSeenConnection
    ∧ dSeenSecAccept = Gen.ws_Dialer_Upgrade__headerSeenSecAccept ∧ Gen.ws_Dialer_Upgrade__headerSeenAll = 7
    ∧ Gen.ws_nonceSize = 24 ∧ Gen.ws_acceptSize = 28 ∧ Gen.ws_nonceKeySize = 16 := by decide

/-- The request writer's fixed strings. -/
theorem request_consts :
    strBytes Gen.ws_str_headerHost = strBytes "Host" ∧ strBytes Gen.ws_str_headerUpgrade = strBytes "Upgrade"
    ∧ strBytes Gen.ws_str_headerConnection = strBytes "Connection" ∧ strBytes Gen.ws_str_headerSecVersion = strBytes "Sec-WebSocket-Version"
    ∧ strBytes Gen.ws_str_headerSecKey = strBytes "Sec-WebSocket-Key" ∧ strBytes Gen.ws_str_headerSecProtocol = strBytes "Sec-WebSocket-Protocol"
    ∧ strBytes Gen.ws_str_headerSecExtensions = strBytes "Sec-WebSocket-Extensions"
    ∧ strBytes Gen.ws_str_colonAndSpace = strBytes ": " ∧ strBytes Gen.ws_str_commaAndSpace = strBytes ", "
    ∧ strBytes Gen.ws_str_crlf = crlf ∧ Spec.wsGUID = strBytes Gen.ws_str_magic :=
  ⟨rfl, rfl, rfl, rfl, rfl, rfl, rfl, rfl, rfl, by decide +kernel, rfl⟩

/-- The decision structure of Dialer.Upgrade the model mirrors (dlStatusLine, dlHeader, dlFinish). -/
theorem dialer_conds :
    Gen.facts_ws_conds.filter (·.startsWith "Dialer_Upgrade:") =
      ["Dialer_Upgrade: br.Buffered() == 0 || err != nil",
       "Dialer_Upgrade: err != nil",
       "Dialer_Upgrade: err != nil",
       "Dialer_Upgrade: err != nil",
       "Dialer_Upgrade: resp.major != 1 || resp.minor < 1",
       "Dialer_Upgrade: resp.status != http.StatusSwitchingProtocols",
       "Dialer_Upgrade: onStatusError != nil",
       "Dialer_Upgrade: e != nil",
       "Dialer_Upgrade: len(line) == 0",
       "Dialer_Upgrade: !ok",
       "Dialer_Upgrade: case headerUpgradeCanonical",
       "Dialer_Upgrade: !bytes.Equal(v, specHeaderValueUpgrade) && !bytes.EqualFold(v, specHeaderValueUpgrade)",
       "Dialer_Upgrade: case headerConnectionCanonical",
       "Dialer_Upgrade: !bytes.Equal(v, specHeaderValueConnection) && !bytes.EqualFold(v, specHeaderValueConnection)",
       "Dialer_Upgrade: case headerSecAcceptCanonical",
       "Dialer_Upgrade: !checkAcceptFromNonce(v, nonce)",
       "Dialer_Upgrade: case headerSecProtocolCanonical",
       "Dialer_Upgrade: string(v) == want",
       "Dialer_Upgrade: !matched || hs.Protocol == \"\"",
       "Dialer_Upgrade: case headerSecExtensionsCanonical",
       "Dialer_Upgrade: err != nil",
       "Dialer_Upgrade: onHeader != nil",
       "Dialer_Upgrade: e != nil",
       "Dialer_Upgrade: err == nil && headerSeen != headerSeenAll",
       "Dialer_Upgrade: case headerSeen&headerSeenUpgrade == 0",
       "Dialer_Upgrade: case headerSeen&headerSeenConnection == 0",
       "Dialer_Upgrade: case headerSeen&headerSeenSecAccept == 0"] :=
  Lits.ws_conds.filter_startsWith (by repeat constructor) (by decide +kernel)

theorem matchSelected_conds :
    Gen.facts_ws_conds.filter (·.startsWith "matchSelectedExtensions:") =
      ["matchSelectedExtensions: len(selected) == 0",
       "matchSelectedExtensions: bytes.Equal(option.Name, want.Name)",
       "matchSelectedExtensions: i != index",
       "matchSelectedExtensions: i != 0 && !match()",
       "matchSelectedExtensions: attr != nil",
       "matchSelectedExtensions: !ok",
       "matchSelectedExtensions: !match()"] :=
  Lits.ws_conds.filter_startsWith (by repeat constructor) (by decide +kernel)

/-- The status is 3DIGIT. -/
theorem responseLine_conds :
    Gen.facts_ws_conds.filter (·.startsWith "httpParseResponseLine:") =
      ["httpParseResponseLine: !ok",
       "httpParseResponseLine: len(status) != 3",
       "httpParseResponseLine: convErr != nil"] :=
  Lits.ws_conds.filter_startsWith (by repeat constructor) (by decide +kernel)

theorem hostport_conds :
    Gen.facts_ws_conds.filter (·.startsWith "hostport:") =
      ["hostport: colon > bracket"] :=
  Lits.ws_conds.filter_startsWith (by repeat constructor) (by decide +kernel)

theorem writeRequest_conds :
    Gen.facts_ws_conds.filter (·.startsWith "httpWriteUpgradeRequest:") =
      ["httpWriteUpgradeRequest: host == \"\"",
       "httpWriteUpgradeRequest: len(protocols) > 0",
       "httpWriteUpgradeRequest: i > 0",
       "httpWriteUpgradeRequest: len(extensions) > 0",
       "httpWriteUpgradeRequest: header != nil"] :=
  Lits.ws_conds.filter_startsWith (by repeat constructor) (by decide +kernel)

/-- One test for "no configuration", one for "no server name"; the clone precedes the assignment
    (`tlsServerName`). -/
theorem tls_client_conds :
    Gen.facts_ws_conds.filter (·.startsWith "Dialer_tlsClient:") =
      ["Dialer_tlsClient: config == nil",
       "Dialer_tlsClient: config.ServerName == \"\""]
    ∧ Gen.facts_ws_calls.filter (·.startsWith "Dialer_tlsClient:") =
      ["Dialer_tlsClient: call tlsDefaultConfig()",
       "Dialer_tlsClient: call tlsCloneConfig(config)",
       "Dialer_tlsClient: call tls.Client(conn, config)"] :=
  ⟨Lits.ws_conds.filter_startsWith (by repeat constructor) (by decide +kernel),
   Lits.ws_calls.filter_startsWith (by repeat constructor) (by decide +kernel)⟩

end Ws.Bridge.C10
