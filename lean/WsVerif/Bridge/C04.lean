/-
  Bridge C04/C05/C16 (reader side): the conditions of wsutil.Reader's methods, of the limited
  reader and of the read helpers, in source order (regenerated by wsfacts on every run).
  Model/Reader.lean and Model/Helper.lean were written against exactly these decision points; a
  change of any of them breaks the corresponding theorem here and sends the check searching for a
  failing input.
-/
import WsVerif.Bridge.Lits
namespace Ws.Bridge.C04

theorem conds_Reader_Read :
    Gen.facts_wsutil_conds.filter (·.startsWith "Reader_Read:") =
      ["Reader_Read: r.frame == nil",
       "Reader_Read: !r.fragmented()",
       "Reader_Read: err != nil",
       "Reader_Read: r.frame == nil",
       "Reader_Read: err != nil && err != io.EOF",
       -- (F20) the verdict on a text message ending inside a character stands when the source fails with its last bytes
       "Reader_Read: err != ErrInvalidUTF8 && r.raw.N == 0 && !r.fragmented() && r.CheckUTF8 && !r.utf8.Valid()",
       "Reader_Read: err == nil && r.raw.N != 0",
       "Reader_Read: case r.raw.N != 0",
       "Reader_Read: case r.fragmented()",
       "Reader_Read: case r.CheckUTF8 && !r.utf8.Valid()"] :=
  Lits.wsutil_conds.filter_startsWith (by repeat constructor) (by decide +kernel)

theorem conds_Reader_Discard :
    Gen.facts_wsutil_conds.filter (·.startsWith "Reader_Discard:") =
      ["Reader_Discard: err != nil",
       "Reader_Discard: !r.fragmented()",
       "Reader_Discard: err != nil"] :=
  Lits.wsutil_conds.filter_startsWith (by repeat constructor) (by decide +kernel)

theorem conds_Reader_NextFrame :
    Gen.facts_wsutil_conds.filter (·.startsWith "Reader_NextFrame:") =
      ["Reader_NextFrame: err == io.EOF && r.fragmented()",
       "Reader_NextFrame: err == nil && !r.SkipHeaderCheck",
       "Reader_NextFrame: err != nil",
       "Reader_NextFrame: n > 0 && hdr.Length > n",
       "Reader_NextFrame: hdr.Masked",
       "Reader_NextFrame: r.cr == nil",
       "Reader_NextFrame: err != nil",
       "Reader_NextFrame: r.fragmented()",
       "Reader_NextFrame: hdr.OpCode.IsControl()",
       "Reader_NextFrame: cb != nil",
       "Reader_NextFrame: err == nil",
       "Reader_NextFrame: r.CheckUTF8 && (hdr.OpCode == ws.OpText || (r.fragmented() && r.opCode == ws.OpText))",
       "Reader_NextFrame: hdr.OpCode == ws.OpContinuation",
       "Reader_NextFrame: cb != nil",
       "Reader_NextFrame: hdr.Fin"] :=
  Lits.wsutil_conds.filter_startsWith (by repeat constructor) (by decide +kernel)

theorem conds_limitedReader_Read :
    Gen.facts_wsutil_conds.filter (·.startsWith "limitedReader_Read:") =
      ["limitedReader_Read: l.N <= 0",
       "limitedReader_Read: int64(len(p)) > l.N",
       "limitedReader_Read: err == io.EOF && l.N > 0"] :=
  Lits.wsutil_conds.filter_startsWith (by repeat constructor) (by decide +kernel)

theorem conds_Reader_readHeader :
    Gen.facts_wsutil_conds.filter (·.startsWith "Reader_readHeader:") =
      ["Reader_readHeader: err != nil",
       "Reader_readHeader: bts[1]&bit0 != 0",
       "Reader_readHeader: case length < 126",
       "Reader_readHeader: case length == 126",
       "Reader_readHeader: case length == 127",
       "Reader_readHeader: extra == 0",
       "Reader_readHeader: err != nil",
       "Reader_readHeader: case length == 126",
       "Reader_readHeader: case length == 127",
       "Reader_readHeader: bts[0]&0x80 != 0",
       "Reader_readHeader: h.Masked"] :=
  Lits.wsutil_conds.filter_startsWith (by repeat constructor) (by decide +kernel)

theorem conds_ReadMessage :
    Gen.facts_wsutil_conds.filter (·.startsWith "ReadMessage:") =
      ["ReadMessage: err != nil",
       "ReadMessage: err != nil",
       "ReadMessage: h.Fin",
       "ReadMessage: err != nil"] :=
  Lits.wsutil_conds.filter_startsWith (by repeat constructor) (by decide +kernel)

theorem conds_readData :
    Gen.facts_wsutil_conds.filter (·.startsWith "readData:") =
      ["readData: err != nil",
       "readData: hdr.OpCode.IsControl()",
       "readData: err != nil",
       "readData: hdr.OpCode&want == 0",
       "readData: err != nil"] :=
  Lits.wsutil_conds.filter_startsWith (by repeat constructor) (by decide +kernel)

end Ws.Bridge.C04
