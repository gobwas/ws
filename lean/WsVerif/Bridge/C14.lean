/- Bridge C14: facts about wsflate/extension.go and parameters.go regenerated from the source,
   compared with what the model (Model/Negotiate.lean) assumes. -/
import WsVerif.Gen.Funcs
import WsVerif.Bridge.Lits
namespace Ws.Bridge.C14

/-- The decisions of Extension.Negotiate, in source order: not-ours, already accepted, parse error,
    then the three offer-vs-configuration comparisons the model's `negDecide` mirrors. -/
theorem negotiate_conds :
    Gen.facts_wsflate_conds.filter (·.startsWith "Extension_Negotiate") =
      ["Extension_Negotiate: !bytes.Equal(opt.Name, ExtensionNameBytes)",
       "Extension_Negotiate: n.accepted",
       "Extension_Negotiate: err != nil",
       "Extension_Negotiate: offer.Defined() && (!want.Defined() || want > offer)",
       "Extension_Negotiate: want > offer",
       "Extension_Negotiate: offer && !want"] :=
  Lits.wsflate_conds.filter_startsWith (by repeat constructor) (by decide +kernel)

/-- Extension.Reset clears exactly the negotiation state. -/
theorem extension_reset :
    Gen.facts_wsflate_resets.filter (·.startsWith "Extension_Reset") =
      ["Extension_Reset: accepted = false; params = Parameters{}"] :=
  Lits.wsflate_resets.filter_startsWith (by repeat constructor) (by decide +kernel)

theorem isValidBits_bridge (x : Nat) : Gen.wsflate_isValidBits (x : Int) = decide (8 ≤ x ∧ x ≤ 15) := by
  rw [Gen.wsflate_isValidBits, Bool.decide_and]
  congr 1 <;> exact decide_eq_decide.mpr (by omega)

theorem defined_bridge (b : Nat) : Gen.wsflate_WindowBits_Defined b = decide (b ≠ 0) :=
  decide_eq_decide.mpr (by omega)

end Ws.Bridge.C14
