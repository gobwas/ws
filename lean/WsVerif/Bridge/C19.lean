/-
  Bridge C19: the syntactic side of the get/put discipline and of "shared values are read-only",
  re-extracted from the source on every run (Gen/Facts.lean) and decided here. The shared values
  are the package-level variables: DefaultDialer, DefaultUpgrader, DefaultHTTPUpgrader,
  DefaultHelper, DefaultParameters, the Compiled* frames, the UTF-8 table, ...
-/
import WsVerif.Props.C17
import WsVerif.Bridge.Lits
namespace Ws.Bridge.C19
open Ws.C17

def fnOf (s : String) : List Char := s.toList.takeWhile (· != ':')

def isGet (s : String) : Bool := mentions s ".Get"
def isDeferredPut (s : String) : Bool := mentions s ": defer " && mentions s ".Put"

def paired (facts : List String) : Bool :=
  (facts.filter isGet).all fun g =>
    fnOf g == "GetWriter".toList || facts.any fun p => isDeferredPut p && fnOf p == fnOf g

/-- Every function that takes a buffer from a pool gives it back in a deferred call (so after its
    last use on every path, panics included); wsutil.GetWriter / PutWriter are the exported pair
    whose discipline is the caller's. -/
theorem pool_get_put_paired :
    paired Gen.facts_ws_pool = true ∧ paired Gen.facts_wsutil_pool = true := by
  simp only [Lits.ws_pool.eq, Lits.wsutil_pool.eq, Lits.ofList_simps, paired, isGet, isDeferredPut, mentions, fnOf]
  repeat rw [String.toList_ofList]
  decide +kernel

/-- `pool_get_put_paired` has something to pair: 2 + 7 acquiring functions. -/
theorem pool_getters :
    ((Gen.facts_ws_pool ++ Gen.facts_wsutil_pool).filter isGet).map fnOf =
      ["Dialer_Upgrade", "Dialer_Upgrade", "Upgrader_Upgrade", "Upgrader_Upgrade", "CipherWriter_Write",
       "ControlHandler_HandleClose", "ControlHandler_HandlePing", "ControlHandler_HandlePong", "GetWriter",
       "Writer_WriteThrough", "writeFrame"].map String.toList := by
  simp only [Lits.ws_pool.eq, Lits.wsutil_pool.eq, Lits.ofList_simps, isGet, mentions, fnOf, List.map_cons, List.map_nil]
  repeat rw [String.toList_ofList]
  decide +kernel

/-- text of a fact line after "<function>: " -/
def siteOf (s : String) : List Char := (s.toList.dropWhile (· != ':')).drop 2

/-- A release that is not inside a `defer`: the extractor lists a deferred release twice (once as
    "defer …", once as the call it finds inside the deferred statement), so a function releases
    only in deferred calls exactly when each release text occurs as often plain as deferred. The
    exported Put* wrappers are releases by definition. -/
def releasesOnlyDeferred (facts : List String) : Bool :=
  (facts.filter fun s => mentions s ".Put" && !mentions s ": defer ").all fun p =>
    "Put".toList.isPrefixOf (fnOf p) ||
    (facts.filter (· == p)).length
      == (facts.filter fun d => fnOf d == fnOf p && siteOf d == "defer ".toList ++ siteOf p).length

/-- No buffer goes back to a pool before the function that took it returns: every release is a
    deferred one (an early `PutReader(br)` while views into the buffer are still to be written out
    would hand another session a buffer that is still read). -/
theorem pool_released_only_on_return :
    releasesOnlyDeferred Gen.facts_ws_pool = true ∧ releasesOnlyDeferred Gen.facts_wsutil_pool = true := by
  simp only [Lits.ws_pool.eq, Lits.wsutil_pool.eq, Lits.ofList_simps, releasesOnlyDeferred, mentions, fnOf, siteOf]
  repeat rw [String.toList_ofList]
  decide +kernel

def isMutation (s : String) : Bool :=
  mentions s ": write " || mentions s ": copy " || mentions s ": append " || mentions s ": addr "

/-- No function other than init assigns to a package-level variable, appends or copies into one;
    the only address taken is the empty tls.Config handed (read-only) to crypto/tls. -/
theorem globals_read_only :
    ((Gen.facts_ws_gtouch ++ Gen.facts_wsutil_gtouch ++ Gen.facts_wsflate_gtouch).filter isMutation)
      = ["tlsDefaultConfig: addr &tlsEmptyConfig"] := by
  simp only [Lits.ws_gtouch.eq, Lits.wsutil_gtouch.eq, Lits.wsflate_gtouch.eq, Lits.ofList_simps, isMutation, mentions]
  repeat rw [String.toList_ofList]
  exact Lits.map_ofList_eq (by repeat constructor) (by decide +kernel)

/-- The methods of the types that have shared default values (wsflate.Helper's have pointer
    receivers) never write through their receiver. -/
theorem shared_receivers_read_only :
    Gen.facts_ws_sharedwrites = [] ∧ Gen.facts_wsutil_sharedwrites = [] ∧ Gen.facts_wsflate_sharedwrites = [] :=
  ⟨rfl, rfl, rfl⟩

/-- The shared defaults of package ws are used through value receivers (a copy per call). -/
theorem default_values_by_value :
    ["Dialer_Dial: value", "Dialer_Upgrade: value", "Upgrader_Upgrade: value", "HTTPUpgrader_Upgrade: value"].all
      (fun s => Gen.facts_ws_recv.contains s) = true := by decide +kernel

/-- The shared values that exist (a new one must be looked at). -/
theorem shared_values :
    (Gen.facts_ws_globals.filter fun s => "Default".toList.isPrefixOf s.toList || "Compiled".toList.isPrefixOf s.toList).length = 17
    ∧ Gen.facts_wsutil_globals = ["DefaultWriteBuffer", "ErrControlOverflow", "ErrFrameTooLarge", "ErrInvalidUTF8",
        "ErrNoFrameAdvance", "ErrNotControlFrame", "ErrNotEmpty", "errNoSpace", "utf8d", "writers"]
    ∧ Gen.facts_wsflate_globals = ["DefaultHelper", "DefaultParameters", "ErrUnexpectedCompressionBit", "ExtensionNameBytes",
        "clientMaxWindowBitsBytes", "clientNoContextTakeoverBytes", "compressionReadTail", "compressionTail",
        "serverMaxWindowBitsBytes", "serverNoContextTakeoverBytes", "windowBits"] := by
  refine ⟨?_, rfl, rfl⟩
  simp only [Lits.ws_globals.eq, Lits.ofList_simps]
  repeat rw [String.toList_ofList]
  decide +kernel

end Ws.Bridge.C19
