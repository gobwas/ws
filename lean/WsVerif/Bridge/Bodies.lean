/-
  Bridge (tie 1) — the small methods whose models are written by hand: the obligation is the whole
  body, not the list of its conditions as in Bridge/Cxx (most have none). The bodies, as extracted
  from /repo's working tree on this run (as go/printer prints a body: free-standing comments
  dropped, the doc comment of a declaration inside it kept, white space collapsed), are what the
  models were written against; and the method sets of CipherReader / CipherWriter / UTF8Reader are
  exactly the entry points the models and generators cover. Any edit — also a harmless one —
  breaks the obligation and has to be looked at (the check then searches for a failing input and
  otherwise reports no-failing-input-found).
    CipherReader.Read/Reset, CipherWriter.Write/Reset, NewCipherReader/Writer
                                                       ~  Model/Cipher (CipherRd.read, CipherWr.write, position 0 when new), Props/C18 (cipherRdReset, cipherWrReset)
    UTF8Reader.*                                       ~  Model/Utf8 (Utf8Rd.feed / valid / accepted), Props/C18 (u8Reset)
    Reader.reset / resetFragment / fragmented          ~  Model/Reader (Rd.reset, Rd.resetFragment, Rd.fragmented)
    Writer.Reset / ResetOp / SetExtensions / DisableFlush / flushFragment / opCode
                                                       ~  Model/Writer (Wr.reset, Wr.resetOp, Wr.ext, Wr.noFlush, Wr.flushFragment, Wr.opCode), Props/C06 (flushTemplate)
    wsflate Writer.Reset                               ~  Model/Flate (FlWr.reset)
    MessageState.*, Rsv, RsvBits, StatusCode.Is*       ~  Model/Reader (setBits/unsetBits), Model/Check
    SelectEqual, SelectFromSlice                       ~  Model/Upgrader (UpCfg.protocols)
-/
import WsVerif.Bridge.Lits
namespace Ws.Bridge.Bodies
open Ws

theorem bodies_ws :
    Gen.facts_ws_bodies =
      ["Rsv: { if r1 { rsv |= bit5 } if r2 { rsv |= bit6 } if r3 { rsv |= bit7 } return rsv }",
       "RsvBits: { r1 = rsv&bit5 != 0 r2 = rsv&bit6 != 0 r3 = rsv&bit7 != 0 return r1, r2, r3 }",
       "SelectEqual: { return func(p string) bool { return v == p } }",
       "SelectFromSlice: { if len(accept) > 16 { mp := make(map[string]struct{}, len(accept)) for _, p := range accept { mp[p] = struct{}{} } return func(p string) bool { _, ok := mp[p] return ok } } return func(p string) bool { for _, ok := range accept { if p == ok { return true } } return false } }",
       "StatusCode_IsApplicationSpec: { return s.In(StatusRangeApplication) }",
       "StatusCode_IsNotUsed: { return s.In(StatusRangeNotInUse) }",
       "StatusCode_IsPrivateSpec: { return s.In(StatusRangePrivate) }",
       "StatusCode_IsProtocolDefined: { switch s { case StatusNormalClosure, StatusGoingAway, StatusProtocolError, StatusUnsupportedData, StatusInvalidFramePayloadData, StatusPolicyViolation, StatusMessageTooBig, StatusMandatoryExt, StatusInternalServerError, StatusNoStatusRcvd, StatusAbnormalClosure, StatusTLSHandshake: return true } return false }",
       "StatusCode_IsProtocolReserved: { switch s { case StatusNoStatusRcvd, StatusAbnormalClosure, StatusTLSHandshake: return true default: return false } }"] := rfl

theorem bodies_wsutil :
    Gen.facts_wsutil_bodies =
      ["CipherReader_Read: { n, err = c.r.Read(p) ws.Cipher(p[:n], c.mask, c.pos) c.pos += n return n, err }",
       "CipherReader_Reset: { c.r = r c.mask = mask c.pos = 0 }",
       "CipherWriter_Reset: { c.w = w c.mask = mask c.pos = 0 }",
       "CipherWriter_Write: { cp := pbytes.GetLen(len(p)) defer pbytes.Put(cp) copy(cp, p) ws.Cipher(cp, c.mask, c.pos) n, err = c.w.Write(cp) c.pos += n return n, err }",
       "NewCipherReader: { return &CipherReader{r, mask, 0} }",
       "NewCipherWriter: { return &CipherWriter{w, mask, 0} }",
       "Reader_fragmented: { return r.State.Fragmented() }",
       "Reader_reset: { r.raw = limitedReader{} r.frame = nil r.utf8 = UTF8Reader{} r.opCode = 0 }",
       "Reader_resetFragment: { r.raw = limitedReader{} r.frame = nil r.utf8.Source = nil }",
       "UTF8Reader_Accepted: { return u.accepted }",
       "UTF8Reader_Read: { n, err = u.Source.Read(p) accepted := 0 s, c := u.state, u.codep for i := 0; i < n; i++ { c, s = decode(s, c, p[i]) if s == utf8Reject { u.state = s return accepted, ErrInvalidUTF8 } if s == utf8Accept { accepted = i + 1 } } u.state, u.codep = s, c u.accepted = accepted return n, err }",
       "UTF8Reader_Reset: { u.Source = r u.state = 0 u.codep = 0 u.accepted = 0 }",
       "UTF8Reader_Valid: { return u.state == utf8Accept }",
       "Writer_DisableFlush: { w.noFlush = true }",
       "Writer_Reset: { w.dest = dest w.state = state w.op = op w.initBuf() w.n = 0 w.dirty = false w.fseq = 0 w.err = nil w.extensions = w.extensions[:0] w.noFlush = false }",
       "Writer_ResetOp: { w.op = op w.n = 0 w.dirty = false w.fseq = 0 }",
       "Writer_SetExtensions: { w.extensions = xs }",
       "Writer_flushFragment: { var ( payload = w.buf[:w.n] header = ws.Header{ OpCode: w.opCode(), Fin: fin, Length: int64(len(payload)), } ) for _, ext := range w.extensions { header, err = ext.SetBits(header) if err != nil { return err } } if w.state.ClientSide() { header.Masked = true header.Mask = ws.NewMask() ws.Cipher(payload, header.Mask, 0) } // Write header to the header segment of the raw buffer. var ( offset = len(w.raw) - len(w.buf) skip = offset - ws.HeaderSize(header) ) buf := bytesWriter{ buf: w.raw[skip:offset], } if err := ws.WriteHeader(&buf, header); err != nil { panic(\"dump header error: \" + err.Error()) } _, err = w.dest.Write(w.raw[skip : offset+w.n]) return err }",
       "Writer_opCode: { if w.fseq > 0 { return ws.OpContinuation } return w.op }"] := rfl

theorem bodies_wsflate :
    Gen.facts_wsflate_bodies =
      ["MessageState_IsCompressed: { return s.compressed }",
       "MessageState_SetCompressed: { s.compressed = v }",
       "Writer_Reset: { w.err = nil w.cbuf.reset(dest) if x, ok := w.c.(WriteResetter); ok { x.Reset(&w.cbuf) } else { w.c = w.ctor(&w.cbuf) } }"] := rfl

/-- `facts_wsutil_recv` lists every method of package wsutil with its receiver kind: CipherReader
    has these two and no other. -/
theorem methods_CipherReader :
    Gen.facts_wsutil_recv.filter (·.startsWith "CipherReader_") =
      ["CipherReader_Read: pointer",
       "CipherReader_Reset: pointer"] :=
  Lits.wsutil_recv.filter_startsWith (by repeat constructor) (by decide +kernel)

theorem methods_CipherWriter :
    Gen.facts_wsutil_recv.filter (·.startsWith "CipherWriter_") =
      ["CipherWriter_Reset: pointer",
       "CipherWriter_Write: pointer"] :=
  Lits.wsutil_recv.filter_startsWith (by repeat constructor) (by decide +kernel)

theorem methods_UTF8Reader :
    Gen.facts_wsutil_recv.filter (·.startsWith "UTF8Reader_") =
      ["UTF8Reader_Accepted: pointer",
       "UTF8Reader_Read: pointer",
       "UTF8Reader_Reset: pointer",
       "UTF8Reader_Valid: pointer"] :=
  Lits.wsutil_recv.filter_startsWith (by repeat constructor) (by decide +kernel)

end Ws.Bridge.Bodies
