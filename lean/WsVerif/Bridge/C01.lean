/-
  Bridge C01: the definitions regenerated from /repo's source (Gen.*) agree with the hand-written
  model the C01 theorems are stated about. Re-checked on every run.
-/
import WsVerif.Gen.Funcs
import WsVerif.Model.Header
namespace Ws.Bridge.C01
open Ws

def toGen (h : Ws.Header) : Gen.Header :=
  ⟨h.fin, h.rsv, h.op, h.masked, h.mask.toList, (h.len : Int)⟩

/-- The constants of write.go, and wsutil/writer.go's copies of the three length bounds, are the ones
    the model uses. -/
theorem consts_ok :
    Gen.ws_len7 = (Ws.len7 : Int) ∧ Gen.ws_len16 = (Ws.len16 : Int) ∧ Gen.ws_len64 = (Ws.len64 : Int)
      ∧ Gen.ws_bit0 = Ws.bit0 ∧ Gen.ws_MaxHeaderSize = 14 ∧ Gen.ws_MinHeaderSize = 2
      ∧ Gen.wsutil_len7 = 125 ∧ Gen.wsutil_len16 = 65535 ∧ Gen.wsutil_len64 = 2 ^ 63 - 1 := by
  decide

/-- The translated ws.HeaderSize is the model's headerSize on every header. -/
theorem headerSize_bridge (h : Ws.Header) : Gen.ws_HeaderSize (toGen h) = Ws.headerSize h := by
  unfold Gen.ws_HeaderSize Ws.headerSize toGen Gen.ws_len16 Gen.ws_len64 Ws.len16 Ws.len64
  simp only
  by_cases h1 : h.len < 126
  · have : ((h.len : Int) < 126) := by omega
    cases hm : h.masked <;> simp [h1, this]
  · have : ¬ ((h.len : Int) < 126) := by omega
    by_cases h2 : h.len ≤ 65535
    · have : ((h.len : Int) ≤ 65535) := by omega
      cases hm : h.masked <;> simp [*]
    · have h2' : ¬ ((h.len : Int) ≤ 65535) := by omega
      by_cases h3 : h.len ≤ 2 ^ 63 - 1
      · have : ((h.len : Int) ≤ 9223372036854775807) := by omega
        cases hm : h.masked <;> simp [*]
      · have : ¬ ((h.len : Int) ≤ 9223372036854775807) := by omega
        cases hm : h.masked <;> simp [*]

end Ws.Bridge.C01
