/-
  Bridge C08: the conditions of the control handler and the control writer, in source order.
-/
import WsVerif.Bridge.Lits
namespace Ws.Bridge.C08

theorem conds_ControlHandler_Handle :
    Gen.facts_wsutil_conds.filter (·.startsWith "ControlHandler_Handle:") =
      ["ControlHandler_Handle: case ws.OpPing",
       "ControlHandler_Handle: case ws.OpPong",
       "ControlHandler_Handle: case ws.OpClose"] :=
  Lits.wsutil_conds.filter_startsWith (by repeat constructor) (by decide +kernel)

theorem conds_ControlHandler_HandlePing :
    Gen.facts_wsutil_conds.filter (·.startsWith "ControlHandler_HandlePing:") =
      ["ControlHandler_HandlePing: h.Length == 0",
       "ControlHandler_HandlePing: c.State.ServerSide() && !c.DisableSrcCiphering",
       "ControlHandler_HandlePing: err == nil"] :=
  Lits.wsutil_conds.filter_startsWith (by repeat constructor) (by decide +kernel)

theorem conds_ControlHandler_HandlePong :
    Gen.facts_wsutil_conds.filter (·.startsWith "ControlHandler_HandlePong:") =
      ["ControlHandler_HandlePong: h.Length == 0"] :=
  Lits.wsutil_conds.filter_startsWith (by repeat constructor) (by decide +kernel)

theorem conds_ControlHandler_HandleClose :
    Gen.facts_wsutil_conds.filter (·.startsWith "ControlHandler_HandleClose:") =
      ["ControlHandler_HandleClose: h.Length == 0",
       "ControlHandler_HandleClose: err != nil",
       "ControlHandler_HandleClose: c.State.ServerSide() && !c.DisableSrcCiphering",
       "ControlHandler_HandleClose: err != nil",
       "ControlHandler_HandleClose: err != nil",
       "ControlHandler_HandleClose: err != nil",
       "ControlHandler_HandleClose: err != nil"] :=
  Lits.wsutil_conds.filter_startsWith (by repeat constructor) (by decide +kernel)

theorem conds_ControlHandler_closeWithProtocolError :
    Gen.facts_wsutil_conds.filter (·.startsWith "ControlHandler_closeWithProtocolError:") =
      ["ControlHandler_closeWithProtocolError: c.State.ClientSide()"] :=
  Lits.wsutil_conds.filter_startsWith (by repeat constructor) (by decide +kernel)

theorem conds_ControlWriter_Write :
    Gen.facts_wsutil_conds.filter (·.startsWith "ControlWriter_Write:") =
      ["ControlWriter_Write: c.n+len(p) > c.limit"] :=
  Lits.wsutil_conds.filter_startsWith (by repeat constructor) (by decide +kernel)

end Ws.Bridge.C08
