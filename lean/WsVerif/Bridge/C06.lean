/- Bridge C06: writer.go's reserve / headerSize, regenerated from source, are the model's; the decision
   points of the writer's methods, in source order. -/
import WsVerif.Bridge.Lits
import WsVerif.Gen.Funcs
import WsVerif.Model.Writer
import WsVerif.Props.C06
import WsVerif.Bridge.C03
namespace Ws.Bridge.C06
open Ws

theorem reserve_bridge (s n : Nat) :
    Gen.wsutil_reserve s (n : Int) = (reserve (stIs s stClient) n : Int) := by
  unfold Gen.wsutil_reserve reserve
  obtain ⟨-, -, -, -, hclient, -⟩ := Ws.Bridge.C03.state_bridge s 0
  rw [hclient]
  simp only [Gen.wsutil_len7, Gen.wsutil_len16]
  cases stIs s stClient
  · by_cases h1 : n ≤ 127
    · have h1' : (n : Int) ≤ 127 := by omega
      simp [h1, h1']
    · have h1' : ¬ (n : Int) ≤ 127 := by omega
      by_cases h2 : n ≤ 65539
      · have h2' : (n : Int) ≤ 65539 := by omega
        simp [h1, h1', h2, h2']
      · have h2' : ¬ (n : Int) ≤ 65539 := by omega
        simp [h1, h1', h2, h2']
  · by_cases h1 : n ≤ 131
    · have h1' : (n : Int) ≤ 131 := by omega
      simp [h1, h1']
    · have h1' : ¬ (n : Int) ≤ 131 := by omega
      by_cases h2 : n ≤ 65543
      · have h2' : (n : Int) ≤ 65543 := by omega
        simp [h1, h1', h2, h2']
      · have h2' : ¬ (n : Int) ≤ 65543 := by omega
        simp [h1, h1', h2, h2']

/-- writer.go:headerSize is ws.HeaderSize of the header it builds, so this is Bridge.C01's fact
    on that header and the model's two size lemmas. -/
theorem headerSize_bridge (s n : Nat) (hn : n < 2 ^ 63) :
    Gen.wsutil_headerSize s (n : Int) = (wHeaderSize (stIs s stClient) n : Int) := by
  let h : Ws.Header := ⟨false, 0, 0, stIs s stClient, Mask.zero, n⟩
  have hw : h.WF := ⟨Nat.zero_lt_succ _, Nat.zero_lt_succ _, hn, Mask.zero_wf, fun _ => rfl⟩
  rw [← Ws.C06.rfcSize_eq h, ← Ws.C01.headerSize_eq h hw, ← Ws.Bridge.C01.headerSize_bridge h]
  rfl

/-- The two constants of package ws that writer.go uses. -/
theorem consts_ok : Gen.ws_MaxControlFramePayloadSize = 125 ∧ Gen.ws_MinHeaderSize = 2 :=
  ⟨Ws.Bridge.C03.consts_ok.2.2.2.2.2.2.2.2.2.2.1, Ws.Bridge.C01.consts_ok.2.2.2.2.2.1⟩

theorem conds_Writer_Write :
    Gen.facts_wsutil_conds.filter (·.startsWith "Writer_Write:") =
      ["Writer_Write: w.noFlush",
       "Writer_Write: w.Buffered() == 0",
       "Writer_Write: w.err != nil"] :=
  Lits.wsutil_conds.filter_startsWith (by repeat constructor) (by decide +kernel)

theorem conds_Writer_WriteThrough :
    Gen.facts_wsutil_conds.filter (·.startsWith "Writer_WriteThrough:") =
      ["Writer_WriteThrough: w.err != nil",
       "Writer_WriteThrough: w.Buffered() != 0",
       "Writer_WriteThrough: err != nil",
       "Writer_WriteThrough: w.state.ClientSide()",
       "Writer_WriteThrough: w.err == nil"] :=
  Lits.wsutil_conds.filter_startsWith (by repeat constructor) (by decide +kernel)

theorem conds_Writer_ReadFrom :
    Gen.facts_wsutil_conds.filter (·.startsWith "Writer_ReadFrom:") =
      ["Writer_ReadFrom: w.Available() == 0",
       "Writer_ReadFrom: w.noFlush",
       "Writer_ReadFrom: nn != 0 || err != nil",
       "Writer_ReadFrom: nr == maxEmptyReads",
       "Writer_ReadFrom: nn > 0",
       "Writer_ReadFrom: err == io.EOF"] :=
  Lits.wsutil_conds.filter_startsWith (by repeat constructor) (by decide +kernel)

theorem conds_Writer_Grow :
    Gen.facts_wsutil_conds.filter (·.startsWith "Writer_Grow:") =
      ["Writer_Grow: size < len(w.raw)",
       "Writer_Grow: size == len(w.raw)"] :=
  Lits.wsutil_conds.filter_startsWith (by repeat constructor) (by decide +kernel)

theorem conds_Writer_Flush :
    Gen.facts_wsutil_conds.filter (·.startsWith "Writer_Flush:") =
      ["Writer_Flush: (!w.dirty && w.Buffered() == 0) || w.err != nil"] :=
  Lits.wsutil_conds.filter_startsWith (by repeat constructor) (by decide +kernel)

theorem conds_Writer_FlushFragment :
    Gen.facts_wsutil_conds.filter (·.startsWith "Writer_FlushFragment:") =
      ["Writer_FlushFragment: w.Buffered() == 0 || w.err != nil"] :=
  Lits.wsutil_conds.filter_startsWith (by repeat constructor) (by decide +kernel)

theorem conds_writeFrame :
    Gen.facts_wsutil_conds.filter (·.startsWith "writeFrame:") =
      ["writeFrame: s.ClientSide()"] :=
  Lits.wsutil_conds.filter_startsWith (by repeat constructor) (by decide +kernel)

end Ws.Bridge.C06
