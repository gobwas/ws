/-
  Bridge C12: the tail constants and the decision structure of cbuf, suffixedReader, the wsflate
  Writer/Reader and the frame helpers as the source has them.
-/
import WsVerif.Model.Flate
import WsVerif.Gen.Consts
import WsVerif.Bridge.Lits
namespace Ws.Bridge.C12
open Ws

theorem tails : compressionTail = Gen.wsflate_compressionTail ∧ compressionReadTail = Gen.wsflate_compressionReadTail := by decide

/-- What each reset method of wsflate assigns: the lines of `Bridge.C18.wsflate_resets` other than
    Extension's. Which fields a reset leaves alone shows against `Bridge.C18.wsflate_structs`. -/
theorem resets :
    Gen.facts_wsflate_resets.filter (fun s => !s.startsWith "Extension") =
      ["Reader_Reset: err = nil; src = src; call sr.reset(src); d = r.ctor(r.sr.iface())",
       "Writer_Reset: err = nil; call cbuf.reset(dest); c = w.ctor(&w.cbuf)",
       "cbuf_reset: n = 0; err = nil; buf = [4]byte{0, 0, 0, 0}; dst = dst",
       "suffixedReader_reset: r = src; pos = 0"] :=
  Lits.wsflate_resets.filter_eq (by repeat constructor) (h := by decide +kernel)

theorem conds_cbuf_Write :
    Gen.facts_wsflate_conds.filter (·.startsWith "cbuf_Write:") =
      ["cbuf_Write: c.err != nil",
       "cbuf_Write: n > len(c.buf)",
       "cbuf_Write: len(head) > 0"] :=
  Lits.wsflate_conds.filter_startsWith (by repeat constructor) (by decide +kernel)

theorem conds_cbuf_flush :
    Gen.facts_wsflate_conds.filter (·.startsWith "cbuf_flush:") =
      ["cbuf_flush: c.err == nil"] :=
  Lits.wsflate_conds.filter_startsWith (by repeat constructor) (by decide +kernel)

theorem conds_cbuf_split :
    Gen.facts_wsflate_conds.filter (·.startsWith "cbuf_split:") =
      ["cbuf_split: n > len(c.buf)"] :=
  Lits.wsflate_conds.filter_startsWith (by repeat constructor) (by decide +kernel)

theorem conds_suffixedReader_iface :
    Gen.facts_wsflate_conds.filter (·.startsWith "suffixedReader_iface:") =
      ["suffixedReader_iface: ok"] :=
  Lits.wsflate_conds.filter_startsWith (by repeat constructor) (by decide +kernel)

theorem conds_suffixedReader_Read :
    Gen.facts_wsflate_conds.filter (·.startsWith "suffixedReader_Read:") =
      ["suffixedReader_Read: r.r != nil",
       "suffixedReader_Read: err == io.EOF",
       "suffixedReader_Read: r.pos >= len(r.suffix)"] :=
  Lits.wsflate_conds.filter_startsWith (by repeat constructor) (by decide +kernel)

theorem conds_suffixedReader_ReadByte :
    Gen.facts_wsflate_conds.filter (·.startsWith "suffixedReader_ReadByte:") =
      ["suffixedReader_ReadByte: r.r != nil",
       "suffixedReader_ReadByte: !ok",
       "suffixedReader_ReadByte: err == io.EOF",
       "suffixedReader_ReadByte: r.pos >= len(r.suffix)"] :=
  Lits.wsflate_conds.filter_startsWith (by repeat constructor) (by decide +kernel)

theorem conds_Writer_Write :
    Gen.facts_wsflate_conds.filter (·.startsWith "Writer_Write:") =
      ["Writer_Write: w.err != nil"] :=
  Lits.wsflate_conds.filter_startsWith (by repeat constructor) (by decide +kernel)

theorem conds_Writer_Flush :
    Gen.facts_wsflate_conds.filter (·.startsWith "Writer_Flush:") =
      ["Writer_Flush: w.err != nil"] :=
  Lits.wsflate_conds.filter_startsWith (by repeat constructor) (by decide +kernel)

theorem conds_Writer_Close :
    Gen.facts_wsflate_conds.filter (·.startsWith "Writer_Close:") =
      ["Writer_Close: w.err != nil",
       "Writer_Close: ok"] :=
  Lits.wsflate_conds.filter_startsWith (by repeat constructor) (by decide +kernel)

theorem conds_Writer_checkTail :
    Gen.facts_wsflate_conds.filter (·.startsWith "Writer_checkTail:") =
      ["Writer_checkTail: w.err == nil && w.cbuf.buf != compressionTail"] :=
  Lits.wsflate_conds.filter_startsWith (by repeat constructor) (by decide +kernel)

theorem conds_Reader_Read :
    Gen.facts_wsflate_conds.filter (·.startsWith "Reader_Read:") =
      ["Reader_Read: r.err != nil"] :=
  Lits.wsflate_conds.filter_startsWith (by repeat constructor) (by decide +kernel)

theorem conds_Reader_Close :
    Gen.facts_wsflate_conds.filter (·.startsWith "Reader_Close:") =
      ["Reader_Close: r.err != nil",
       "Reader_Close: ok"] :=
  Lits.wsflate_conds.filter_startsWith (by repeat constructor) (by decide +kernel)

theorem conds_Helper_CompressFrameBuffer :
    Gen.facts_wsflate_conds.filter (·.startsWith "Helper_CompressFrameBuffer:") =
      ["Helper_CompressFrameBuffer: !f.Header.Fin",
       "Helper_CompressFrameBuffer: err != nil",
       "Helper_CompressFrameBuffer: err != nil"] :=
  Lits.wsflate_conds.filter_startsWith (by repeat constructor) (by decide +kernel)

theorem conds_Helper_DecompressFrameBuffer :
    Gen.facts_wsflate_conds.filter (·.startsWith "Helper_DecompressFrameBuffer:") =
      ["Helper_DecompressFrameBuffer: !f.Header.Fin",
       "Helper_DecompressFrameBuffer: err != nil",
       "Helper_DecompressFrameBuffer: !compressed",
       "Helper_DecompressFrameBuffer: err != nil"] :=
  Lits.wsflate_conds.filter_startsWith (by repeat constructor) (by decide +kernel)

theorem conds_Helper_CompressTo :
    Gen.facts_wsflate_conds.filter (·.startsWith "Helper_CompressTo:") =
      ["Helper_CompressTo: err != nil",
       "Helper_CompressTo: err != nil",
       "Helper_CompressTo: err != nil"] :=
  Lits.wsflate_conds.filter_startsWith (by repeat constructor) (by decide +kernel)

theorem conds_Helper_DecompressTo :
    Gen.facts_wsflate_conds.filter (·.startsWith "Helper_DecompressTo:") =
      ["Helper_DecompressTo: err != nil",
       "Helper_DecompressTo: err != nil"] :=
  Lits.wsflate_conds.filter_startsWith (by repeat constructor) (by decide +kernel)

end Ws.Bridge.C12
