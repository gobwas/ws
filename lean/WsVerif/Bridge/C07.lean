/- Bridge C07: the DFA table and its two distinguished states, regenerated from wsutil/utf8.go,
   are the model's, so that Props.C07.table_ok speaks of the table the code contains. -/
import WsVerif.Gen.Consts
import WsVerif.Model.Utf8
namespace Ws.Bridge.C07

theorem table_bridge : Gen.wsutil_utf8d = Ws.utf8d := by rfl

theorem states_bridge : Gen.wsutil_utf8Accept = Ws.utf8Accept ∧ Gen.wsutil_utf8Reject = Ws.utf8Reject := by decide

end Ws.Bridge.C07
