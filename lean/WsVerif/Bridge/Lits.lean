/-
  The regenerated fact lists (Gen/Facts.lean) are lists of string literals, and the bridge theorems
  evaluate prefix tests, searches and comparisons over them. The kernel evaluates nothing on a
  literal cheaply: to it "abc" is `String.ofList ['a','b','c']`, `String.ofList` unfolds to the
  UTF-8 bytes (built by a quadratic `List.toByteArray`), and `toList`, `startsWith` and `decEq` all
  start from those bytes. What is cheap, for the kernel and for the unifier alike, is the rule
  `"abc" ≡ String.ofList ['a','b','c']` itself.

  `Lits ss` makes the unifier apply that rule to every element of a list of literals, once per list;
  `Lits.chars` then is the list as characters, `Lits.eq` ties the two, and the lemmas below carry a
  statement about the strings over to the same statement about the characters, which the kernel
  evaluates quickly. Nothing here depends on what the lists contain.

  Where a bridge file restates a computation over `Lits.x.chars` by `simp only [Lits.x.eq,
  Lits.ofList_simps, <the definitions used>]`, the patterns inside those definitions are left as
  `"lit".toList`; `repeat rw [String.toList_ofList]` reads them (only unification sees into a
  literal: `simp`'s index does not, and letting the kernel decode them costs as much as the rest).
-/
import WsVerif.Gen.Facts
namespace Ws.Bridge

/-- `ss` is `String.ofList` of known characters, element by element. `by repeat constructor`
    builds it for a list of literals (the unifier solves `"abc" =?= String.ofList ?cs`). -/
inductive Lits : List String → Type
  | nil : Lits []
  | cons (cs : List Char) {ss : List String} (t : Lits ss) : Lits (String.ofList cs :: ss)

namespace Lits

def chars : Lits ss → List (List Char)
  | nil => []
  | cons cs t => cs :: t.chars

theorem eq : (a : Lits ss) → ss = a.chars.map String.ofList
  | nil => rfl
  | cons cs t => by rw [chars, List.map_cons, ← t.eq]

theorem startsWith_ofList (cs : List Char) (p : String) :
    (String.ofList cs).startsWith p = p.toList.isPrefixOf cs := by
  rw [Bool.eq_iff_iff, String.startsWith_string_iff, List.isPrefixOf_iff_prefix, String.toList_ofList]

theorem ofList_beq (a b : List Char) : (String.ofList a == String.ofList b) = (a == b) := by
  rw [Bool.eq_iff_iff, beq_iff_eq, beq_iff_eq, String.ofList_inj]

/-- What `String.ofList` commutes with: one statement, so that a `simp only` names all of it once. -/
theorem ofList_simps :
    (∀ L M : List (List Char), L.map String.ofList ++ M.map String.ofList = (L ++ M).map String.ofList)
    ∧ (∀ (p : String → Bool) (L : List (List Char)),
        (L.map String.ofList).filter p = (L.filter fun cs => p (String.ofList cs)).map String.ofList)
    ∧ (∀ (f : String → List Char) (L : List (List Char)),
        (L.map String.ofList).map f = L.map fun cs => f (String.ofList cs))
    ∧ (∀ (p : String → Bool) (L : List (List Char)), (L.map String.ofList).all p = L.all fun cs => p (String.ofList cs))
    ∧ (∀ (p : String → Bool) (L : List (List Char)), (L.map String.ofList).any p = L.any fun cs => p (String.ofList cs))
    ∧ (∀ L : List (List Char), (L.map String.ofList).length = L.length)
    ∧ (∀ cs : List Char, (String.ofList cs).toList = cs)
    ∧ (∀ (cs : List Char) (p : String), (String.ofList cs).startsWith p = p.toList.isPrefixOf cs)
    ∧ (∀ a b : List Char, (String.ofList a == String.ofList b) = (a == b)) :=
  ⟨fun _ _ => List.map_append.symm, fun _ _ => List.filter_map, fun _ _ => List.map_map, fun _ _ => List.all_map,
   fun _ _ => List.any_map, fun _ => List.length_map _, fun _ => String.toList_ofList, startsWith_ofList, ofList_beq⟩

theorem map_ofList_eq (b : Lits exp) {L : List (List Char)} (h : (L == b.chars) = true) :
    L.map String.ofList = exp := by
  rw [b.eq, eq_of_beq h]

/-- For a Boolean combination of prefix tests the default `hf` finds `g` (its `rw` reads the
    prefixes). -/
theorem filter_eq (a : Lits ss) (b : Lits exp) {f : String → Bool} {g : List Char → Bool}
    (hf : ∀ cs, f (String.ofList cs) = g cs := by
      intro cs; simp only [Ws.Bridge.Lits.startsWith_ofList]; repeat rw [String.toList_ofList])
    (h : (a.chars.filter g == b.chars) = true) :
    ss.filter f = exp := by
  rw [a.eq, List.filter_map, ← b.map_ofList_eq h]
  simp only [Function.comp_def, hf]

theorem filter_startsWith (a : Lits ss) (b : Lits exp) {p : List Char}
    (h : (a.chars.filter p.isPrefixOf == b.chars) = true) :
    ss.filter (·.startsWith (String.ofList p)) = exp :=
  a.filter_eq b (fun cs => by rw [startsWith_ofList, String.toList_ofList]) h

end Lits

/-! Constants on purpose: a `Lits` term written inside a proof, some thousand constructors, is part
    of the goal and is carried through every rewrite after it; a constant is carried as its name.
    They are certificates, never run: `noncomputable` spares the build the seconds the compiler
    would spend on such terms. -/

noncomputable def Lits.ws_conds : Lits Gen.facts_ws_conds := by repeat constructor
noncomputable def Lits.wsutil_conds : Lits Gen.facts_wsutil_conds := by repeat constructor
noncomputable def Lits.wsflate_conds : Lits Gen.facts_wsflate_conds := by repeat constructor
noncomputable def Lits.ws_pool : Lits Gen.facts_ws_pool := by repeat constructor
noncomputable def Lits.wsutil_pool : Lits Gen.facts_wsutil_pool := by repeat constructor
noncomputable def Lits.ws_own : Lits Gen.facts_ws_own := by repeat constructor
noncomputable def Lits.wsutil_own : Lits Gen.facts_wsutil_own := by repeat constructor
noncomputable def Lits.ws_globals : Lits Gen.facts_ws_globals := by repeat constructor
noncomputable def Lits.ws_calls : Lits Gen.facts_ws_calls := by repeat constructor
noncomputable def Lits.wsutil_recv : Lits Gen.facts_wsutil_recv := by repeat constructor
noncomputable def Lits.wsflate_resets : Lits Gen.facts_wsflate_resets := by repeat constructor
noncomputable def Lits.wsutil_structs : Lits Gen.facts_wsutil_structs := by repeat constructor
noncomputable def Lits.wsflate_structs : Lits Gen.facts_wsflate_structs := by repeat constructor
noncomputable def Lits.ws_gtouch : Lits Gen.facts_ws_gtouch := by repeat constructor
noncomputable def Lits.wsutil_gtouch : Lits Gen.facts_wsutil_gtouch := by repeat constructor
noncomputable def Lits.wsflate_gtouch : Lits Gen.facts_wsflate_gtouch := by repeat constructor

end Ws.Bridge
