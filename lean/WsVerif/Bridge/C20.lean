/-
  Bridge C20: the control flow of Dialer.Dial and setupContextDeadliner as the source has it
  (source-order list of conditions; the statements the model mirrors: dial-phase context from
  Timeout, background fast path, watcher select, done(&err), deferred Close).
-/
import WsVerif.Bridge.Lits
namespace Ws.Bridge.C20

theorem dial_conds :
    Gen.facts_ws_conds.filter (·.startsWith "Dialer_Dial:") =
      ["Dialer_Dial: err != nil",
       "Dialer_Dial: t != 0",
       "Dialer_Dial: !ok || deadline.Before(d)",
       "Dialer_Dial: err != nil",
       "Dialer_Dial: err != nil",
       "Dialer_Dial: ctx == context.Background()"] :=
  Lits.ws_conds.filter_startsWith (by repeat constructor) (by decide +kernel)

theorem deadliner_conds :
    Gen.facts_ws_conds.filter (·.startsWith "setupContextDeadliner:") =
      ["setupContextDeadliner: ctxErr != nil && (*err == nil || isTimeoutError(*err))"] :=
  Lits.ws_conds.filter_startsWith (by repeat constructor) (by decide +kernel)

/-- Every call, go statement, select arm and channel send of Dial, dial and the deadliner, in source
    order: the watcher is armed with the dial-phase context (fix 26ae365), the background path arms
    and clears the deadline, Close is deferred before done. -/
theorem dial_calls :
    Gen.facts_ws_calls.filter (fun c => !c.startsWith "Dialer_tlsClient:") =   -- (tlsClient's calls belong to Bridge.C10)
      ["Dialer_Dial: call url.ParseRequestURI(urlstr)",
       "Dialer_Dial: call time.Now().Add(t)",
       "Dialer_Dial: call time.Now()",
       "Dialer_Dial: call ctx.Deadline()",
       "Dialer_Dial: call deadline.Before(d)",
       "Dialer_Dial: call context.WithDeadline(ctx, deadline)",
       "Dialer_Dial: call cancel()",
       "Dialer_Dial: call d.dial(dialctx, u)",
       "Dialer_Dial: call func() { if err != nil { conn.Close() } }()",
       "Dialer_Dial: call conn.Close()",
       "Dialer_Dial: call context.Background()",
       "Dialer_Dial: call conn.SetDeadline(deadline)",
       "Dialer_Dial: call conn.SetDeadline(noDeadline)",
       "Dialer_Dial: call setupContextDeadliner(dialctx, conn)",
       "Dialer_Dial: call func() { done(&err) }()",
       "Dialer_Dial: call done(&err)",
       "Dialer_Dial: call d.Upgrade(conn, u)",
       "Dialer_dial: call hostport(u.Host, \":80\")",
       "Dialer_dial: call dial(ctx, \"tcp\", addr)",
       "Dialer_dial: call hostport(u.Host, \":443\")",
       "Dialer_dial: call dial(ctx, \"tcp\", addr)",
       "Dialer_dial: call tlsClient(conn, hostname)",
       "Dialer_dial: call fmt.Errorf(\"unexpected websocket scheme: %q\", u.Scheme)",
       "Dialer_dial: call wrap(conn)",
       "setupContextDeadliner: call make(chan struct{})",
       "setupContextDeadliner: call make(chan error, 1)",
       "setupContextDeadliner: go",
       "setupContextDeadliner: call func() { select { case <-quit: interrupt <- nil case <-ctx.Done(): conn.SetDeadline(aLongTimeAgo) interrupt <- ctx.Err() } }()",
       "setupContextDeadliner: select",
       "setupContextDeadliner: comm <-quit",
       "setupContextDeadliner: send interrupt <- nil",
       "setupContextDeadliner: comm <-ctx.Done()",
       "setupContextDeadliner: call ctx.Done()",
       "setupContextDeadliner: call conn.SetDeadline(aLongTimeAgo)",
       "setupContextDeadliner: send interrupt <- ctx.Err()",
       "setupContextDeadliner: call ctx.Err()",
       "setupContextDeadliner: call close(quit)",
       "setupContextDeadliner: call isTimeoutError(*err)"] :=
  Lits.ws_calls.filter_eq (by repeat constructor) (h := by decide +kernel)

end Ws.Bridge.C20
