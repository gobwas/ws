/-
  Bridge C18: what each Reset assigns, and the fields each resettable type has, as the source has
  them: a new field, or an assignment a Reset gains or loses, changes one of these lists.
  No theorem compares the two: besides configuration (constructor function, raw buffer) a Reset
  leaves alone wsflate Writer.dest, wsutil Reader.tmp and cr, suffixedReader.suffix and rx.
-/
import WsVerif.Bridge.Lits
namespace Ws.Bridge.C18

theorem wsutil_resets :
    Gen.facts_wsutil_resets =
      ["CipherReader_Reset: r = r; mask = mask; pos = 0",
       "CipherWriter_Reset: w = w; mask = mask; pos = 0",
       "Reader_reset: raw = limitedReader{}; frame = nil; utf8 = UTF8Reader{}; opCode = 0",
       "Reader_resetFragment: raw = limitedReader{}; frame = nil; utf8.Source = nil",
       "UTF8Reader_Reset: Source = r; state = 0; codep = 0; accepted = 0",
       "Writer_Reset: dest = dest; state = state; op = op; call initBuf(); n = 0; dirty = false; fseq = 0; err = nil; extensions = w.extensions[:0]; noFlush = false",
       "Writer_ResetOp: op = op; n = 0; dirty = false; fseq = 0"] := rfl

theorem wsflate_resets :
    Gen.facts_wsflate_resets =
      ["Extension_Reset: accepted = false; params = Parameters{}",
       "Reader_Reset: err = nil; src = src; call sr.reset(src); d = r.ctor(r.sr.iface())",
       "Writer_Reset: err = nil; call cbuf.reset(dest); c = w.ctor(&w.cbuf)",
       "cbuf_reset: n = 0; err = nil; buf = [4]byte{0, 0, 0, 0}; dst = dst",
       "suffixedReader_reset: r = src; pos = 0"] := rfl

/-- Fields of the resettable types of wsutil. -/
theorem wsutil_structs :
    Gen.facts_wsutil_structs.filter (fun s => s.startsWith "Writer:" || s.startsWith "UTF8Reader:" || s.startsWith "CipherReader:" || s.startsWith "CipherWriter:" || s.startsWith "Reader:") =
      ["CipherReader: r io.Reader; mask [4]byte; pos int",
       "CipherWriter: w io.Writer; mask [4]byte; pos int",
       "Reader: Source io.Reader; State ws.State; SkipHeaderCheck bool; CheckUTF8 bool; Extensions []RecvExtension; MaxFrameSize int64; OnContinuation FrameHandlerFunc; OnIntermediate FrameHandlerFunc; opCode ws.OpCode; frame io.Reader; raw limitedReader; utf8 UTF8Reader; tmp [ws.MaxHeaderSize - 2]byte; cr *CipherReader",
       "UTF8Reader: Source io.Reader; accepted int; state uint32; codep uint32",
       "Writer: dest io.Writer; op ws.OpCode; state ws.State; extensions []SendExtension; noFlush bool; raw []byte; buf []byte; n int; dirty bool; fseq int; err error"] :=
  Lits.wsutil_structs.filter_eq (by repeat constructor) (h := by decide +kernel)

/-- Fields of the resettable types of wsflate. -/
theorem wsflate_structs :
    Gen.facts_wsflate_structs.filter (fun s => s.startsWith "Writer:" || s.startsWith "Reader:" || s.startsWith "cbuf:" || s.startsWith "suffixedReader:" || s.startsWith "Extension:") =
      ["Extension: Parameters Parameters; accepted bool; params Parameters",
       "Reader: src io.Reader; ctor func(io.Reader) Decompressor; d Decompressor; sr suffixedReader; err error",
       "Writer: dest io.Writer; ctor func(io.Writer) Compressor; c Compressor; cbuf cbuf; err error",
       "cbuf: buf [4]byte; n int; dst io.Writer; err error",
       "suffixedReader: r io.Reader; pos int; suffix [9]byte; rx struct{ io.Reader }"] :=
  Lits.wsflate_structs.filter_eq (by repeat constructor) (h := by decide +kernel)

end Ws.Bridge.C18
